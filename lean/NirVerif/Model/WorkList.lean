/-
  The LIFO work-list of `_forward_type_inference`, generic in the per-edge action.
  Lean accepts the definition only with its termination proof, so termination of the
  modelled algorithm on every multigraph is itself kernel-checked.
-/
namespace NirVerif.Model

abbrev Edge := String × String

theorem countP_le_of_imp {α} (p q : α → Bool) (l : List α) (h : ∀ x, p x = true → q x = true) :
    l.countP p ≤ l.countP q :=
  List.countP_mono_left fun x _ => h x

theorem countP_lt_of_imp {α} (p q : α → Bool) (l : List α) (h : ∀ x, p x = true → q x = true)
    (a : α) (ha : a ∈ l) (hpa : p a = false) (hqa : q a = true) :
    l.countP p < l.countP q := by
  -- `a` is counted on the right only; around it the counts are monotone
  obtain ⟨l1, l2, rfl⟩ := List.append_of_mem ha
  have h1 := countP_le_of_imp p q l1 h
  have h2 := countP_le_of_imp p q l2 h
  simp only [List.countP_append, List.countP_cons, hpa, hqa, if_true, Bool.false_eq_true, if_false]
  omega

/-- The edges Python appends after processing `post`:
`[e for e in edges if e[0] == post and e[1] not in seen]` (with `post` already in `seen`). -/
def pushed (edges : List Edge) (post : String) (seen : List String) : List {e : Edge // e ∈ edges} :=
  edges.attach.filter (fun e => e.1.1 == post && !(seen.contains e.1.2))

/-- `while ready: (pre, post) = ready.pop(); step; seen.add(post); ready += …`.
`stack` is `ready` reversed (its head is the element `pop()` returns).  A failing step
stops the loop; the state it leaves behind is returned together with the error.
Returns the final state, the final `seen` set and the error, if any. -/
def workList {σ ε : Type} (edges : List Edge) (step : σ → String → String → σ × Option ε)
    (st : σ) (stack : List {e : Edge // e ∈ edges}) (seen : List String) : σ × List String × Option ε :=
  match stack with
  | [] => (st, seen, none)
  | ⟨(pre, post), _hmem⟩ :: rest =>
    match step st pre post with
    | (st', some e) => (st', seen, some e)
    | (st', none) =>
      workList edges step st' ((pushed edges post (post :: seen)).reverse ++ rest) (post :: seen)
termination_by ((edges.map Prod.snd).countP (fun n => !(seen.contains n)),
                stack.countP (fun e => seen.contains e.1.2))
decreasing_by
  by_cases hs : seen.contains post = true
  · -- target already seen: first component unchanged, second drops by one
    have hsame : ∀ n : String, (post :: seen).contains n = seen.contains n := by
      intro n
      by_cases hn : n = post
      · subst hn; simp at hs; simp [hs]
      · simp [hn]
    apply Prod.Lex.right'
    · apply Nat.le_of_eq; congr 1; funext n; rw [hsame]
    · rw [List.countP_cons, List.countP_append]
      have h0 : List.countP (fun e : {e : Edge // e ∈ edges} => (post :: seen).contains e.1.2)
          (pushed edges post (post :: seen)).reverse = 0 := by
        rw [List.countP_eq_zero]
        intro e he
        have := (List.mem_filter.mp (List.mem_reverse.mp he)).2
        simp at this ⊢
        exact this.2
      rw [h0]
      simp only [hs, if_true]
      have : List.countP (fun e : {e : Edge // e ∈ edges} => (post :: seen).contains e.1.2) rest
          = List.countP (fun e : {e : Edge // e ∈ edges} => seen.contains e.1.2) rest := by
        congr 1; funext e; rw [hsame]
      omega
  · apply Prod.Lex.left
    apply countP_lt_of_imp _ _ _ _ post
    · exact List.mem_map.mpr ⟨(pre, post), _hmem, rfl⟩
    · simp
    · simp at hs; simp [hs]
    · intro n hn
      simp at hn ⊢
      exact hn.2

/-- Initial work-list: `ready = [e for e in edges if e[0] in inputs]`, `seen = {e[0] …}`. -/
def initialStack (edges : List Edge) (inputs : List String) : List {e : Edge // e ∈ edges} :=
  (edges.attach.filter (fun e => inputs.contains e.1.1)).reverse

def initialSeen (edges : List Edge) (inputs : List String) : List String :=
  (edges.filter (fun e => inputs.contains e.1)).map Prod.fst

end NirVerif.Model
