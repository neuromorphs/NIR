import NirVerif.Model.Graph
/-! `Node`: the setters in constructor form, so that `simp` reads any accessor through any setter without `cases`
(`Node` is a nested inductive type, whose projections `simp` does not reduce by itself). -/
namespace NirVerif.Model.Node
open NirVerif NirVerif.Py


variable (k : String) (f : List (String × Val)) (i o m : Val) (c : List (String × Node)) (e : List (String × String))

@[simp] theorem kind_mk : (mk k f i o m c e).kind = k := rfl

@[simp] theorem fields_mk : (mk k f i o m c e).fields = f := rfl

@[simp] theorem inputType_mk : (mk k f i o m c e).inputType = i := rfl

@[simp] theorem outputType_mk : (mk k f i o m c e).outputType = o := rfl

@[simp] theorem metadata_mk : (mk k f i o m c e).metadata = m := rfl

@[simp] theorem children_mk : (mk k f i o m c e).children = c := rfl

@[simp] theorem edges_mk : (mk k f i o m c e).edges = e := rfl

@[simp] theorem field?_mk (key : String) : (mk k f i o m c e).field? key = lookup key f := rfl

@[simp] theorem isKind_mk (k' : String) : (mk k f i o m c e).isKind k' = (k == k') := rfl

@[simp] theorem setTypes_eq (n : Node) (i o : Val) :
    n.setTypes i o = mk n.kind n.fields i o n.metadata n.children n.edges := by cases n; rfl

@[simp] theorem setInputType_eq (n : Node) (i : Val) :
    n.setInputType i = mk n.kind n.fields i n.outputType n.metadata n.children n.edges := by cases n; rfl

@[simp] theorem setOutputType_eq (n : Node) (o : Val) :
    n.setOutputType o = mk n.kind n.fields n.inputType o n.metadata n.children n.edges := by cases n; rfl

@[simp] theorem setField_eq (n : Node) (key : String) (v : Val) :
    n.setField key v = mk n.kind (insert key v n.fields) n.inputType n.outputType n.metadata n.children n.edges := by
  cases n; rfl

@[simp] theorem setChildren_eq (n : Node) (c : List (String × Node)) :
    n.setChildren c = mk n.kind n.fields n.inputType n.outputType n.metadata c n.edges := by cases n; rfl

theorem eta (n : Node) : mk n.kind n.fields n.inputType n.outputType n.metadata n.children n.edges = n := by
  cases n; rfl

end NirVerif.Model.Node
