/-! `Except` as the model's error monad, and `List.mapM` into `Except` / `Option`: what a `do` block or a `mapM` that
succeeded says about its parts. -/
namespace NirVerif.Lemmas


@[simp] theorem ok_bind {ε α β : Type} (a : α) (k : α → Except ε β) : (Except.ok a >>= k) = k a := rfl

@[simp] theorem error_bind {ε α β : Type} (e : ε) (k : α → Except ε β) : (Except.error e >>= k) = .error e := rfl

theorem bind_ok {ε α β : Type} {x : Except ε α} {k : α → Except ε β} {b : β} (h : x >>= k = .ok b) :
    ∃ a, x = .ok a ∧ k a = .ok b := by
  cases x with
  | error e => cases h
  | ok a => exact ⟨a, rfl, h⟩

theorem bind_map_congr {ε α β γ : Type} (g : β → γ) (x : Except ε α) (k : α → Except ε β) (k' : α → Except ε γ)
    (h : ∀ a, k' a = Except.map g (k a)) : x >>= k' = Except.map g (x >>= k) := by
  cases x with
  | error e => rfl
  | ok a => exact h a

theorem ok_of_toBool {ε α : Type} {x : Except ε α} (h : x.toBool = true) : ∃ a, x = .ok a := by
  cases x with
  | error e => cases h
  | ok a => exact ⟨a, rfl⟩

theorem mapM_congr {α β ε : Type} (f g : α → Except ε β) (l : List α) (h : ∀ a ∈ l, f a = g a) :
    l.mapM f = l.mapM g := by
  induction l with
  | nil => rfl
  | cons a l ih =>
    simp only [List.mapM_cons]
    rw [h a List.mem_cons_self, ih fun b hb => h b (List.mem_cons_of_mem _ hb)]

theorem mapM_eq_ok_map {ε α β : Type} (f : α → Except ε β) (g : α → β) (l : List α)
    (h : ∀ a ∈ l, f a = .ok (g a)) : l.mapM f = .ok (l.map g) := by
  induction l with
  | nil => rfl
  | cons a as ih =>
    simp only [List.mapM_cons, List.map_cons]
    rw [h a List.mem_cons_self, ih (fun i hi => h i (List.mem_cons_of_mem _ hi))]
    rfl

theorem mapM_map_ok {α β ε : Type} {f : β → Except ε α} {g : α → β} (H : ∀ a, f (g a) = .ok a) (l : List α) :
    (l.map g).mapM f = .ok l := by
  induction l with
  | nil => rfl
  | cons a l ih => rw [List.map_cons, List.mapM_cons, H, ih]; rfl

theorem mapM_eq_some_iff {α β : Type} {f : α → Option β} {l : List α} {r : List β} :
    l.mapM f = some r ↔ l.map f = r.map some := by
  induction l generalizing r with
  | nil => cases r <;> simp
  | cons a as ih =>
    rw [List.mapM_cons, List.map_cons]
    cases f a with
    | none => cases r <;> simp
    | some b =>
      cases hm : as.mapM f with
      | none => cases r <;> simp [← ih, hm]
      | some bs => cases r <;> simp [← ih, hm]

theorem mapM_map_some {α β γ : Type} {f : β → Option γ} {g : α → β} {h : α → γ} (H : ∀ a, f (g a) = some (h a))
    (l : List α) : (l.map g).mapM f = some (l.map h) := by
  simp [mapM_eq_some_iff, H]

theorem mapM_some_length {α β : Type} (f : α → Option β) (l : List α) (r : List β) (h : l.mapM f = some r) :
    r.length = l.length := by
  simpa using (congrArg List.length (mapM_eq_some_iff.mp h)).symm

theorem mapM_some_index {α β : Type} (f : α → Option β) (l : List α) (r : List β) (h : l.mapM f = some r)
    (i : Nat) (hi : i < r.length) : ∃ a, l[i]? = some a ∧ f a = some r[i] := by
  simpa [hi] using congrArg (·[i]?) (mapM_eq_some_iff.mp h)

theorem mapM_cons_some {α β : Type} (f : α → Option β) (x : α) (xs : List α) (c : β) (r : List β)
    (h : (x :: xs).mapM f = some (c :: r)) : f x = some c ∧ xs.mapM f = some r := by
  simpa [mapM_eq_some_iff] using mapM_eq_some_iff.mp h

end NirVerif.Lemmas
