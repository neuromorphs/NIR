import NirVerif.Lemmas.Step
/-! The inference run as a whole.  `workList_inv2` is the invariant rule of the work-list; two invariants go through
it: `FrameInv` (whatever happens, every node stays its original up to `Frame`) and `RunInv` (the search: what is on the
stack, what `seen` holds, which entries of the table were touched, and a predicate `Good` on the processed ones), the
latter as `forwardInference_run` / `_total` / `_touched`.  The last section: inference and the type check see the node
dictionary through look-ups only. -/
namespace NirVerif.Lemmas
open NirVerif NirVerif.Py NirVerif.Model

/-- the table has the keys of the original one, in their order, and under each the original node up to `Frame` -/
def FrameInv (nodes0 nodes : Nodes) : Prop :=
  nodes.map Prod.fst = nodes0.map Prod.fst ∧
  ∀ k n0, lookup k nodes0 = some n0 → ∃ n, lookup k nodes = some n ∧ Frame n0 n

theorem FrameInv.refl (nodes0 : Nodes) : FrameInv nodes0 nodes0 :=
  ⟨rfl, fun _ n0 h => ⟨n0, h, Frame.refl _⟩⟩

theorem lookup_some_of_frameInv {nodes0 nodes : Nodes} (h : FrameInv nodes0 nodes) (k : String) (n : Node)
    (hl : lookup k nodes = some n) : ∃ n0, lookup k nodes0 = some n0 :=
  Option.isSome_iff_exists.mp (by rw [lookup_isSome_iff_mem, ← h.1, ← lookup_isSome_iff_mem, hl]; rfl)

theorem processEdge_cases (nodes : Nodes) (pre post : String) :
    (∃ e, processEdge nodes pre post = (nodes, some e)) ∨
    ∃ p q, lookup pre nodes = some p ∧ lookup post nodes = some q ∧
      processEdge nodes pre post = (Py.insert post (stepNode p q).1 nodes, (stepNode p q).2) := by
  unfold processEdge
  split
  · exact Or.inl ⟨_, rfl⟩
  · exact Or.inl ⟨_, rfl⟩
  · split
    · exact Or.inl ⟨_, rfl⟩
    · exact Or.inr ⟨_, _, by assumption, by assumption, rfl⟩

theorem processEdge_eq {nodes : Nodes} {pre post : String} {p q : Node}
    (h1 : lookup pre nodes = some p) (h2 : lookup post nodes = some q)
    (k1 : p.isKind "NIRGraph" = false) (k2 : q.isKind "NIRGraph" = false) :
    processEdge nodes pre post = (Py.insert post (stepNode p q).1 nodes, (stepNode p q).2) := by
  simp [processEdge, h1, h2, k1, k2, setNode]

theorem processEdge_other {nodes : Nodes} {pre post k : String} (hk : k ≠ post) :
    lookup k (processEdge nodes pre post).1 = lookup k nodes := by
  rcases processEdge_cases nodes pre post with ⟨e, he⟩ | ⟨p, q, _, _, he⟩ <;> rw [he]
  exact lookup_insert_ne _ _ _ _ hk

theorem processEdge_frameInv {nodes0 nodes : Nodes} (pre post : String) (h : FrameInv nodes0 nodes) :
    FrameInv nodes0 (processEdge nodes pre post).1 := by
  rcases processEdge_cases nodes pre post with ⟨e, he⟩ | ⟨p, q, _, hq, he⟩ <;> rw [he]
  · exact h
  · refine ⟨(map_fst_insert_of_lookup post _ q nodes hq).trans h.1, fun k n0 hk => ?_⟩
    obtain ⟨n, hn, hfr⟩ := h.2 k n0 hk
    rw [lookup_insert_eq]
    split
    · subst k; cases hq.symm.trans hn
      exact ⟨_, rfl, hfr.trans (stepNode_frame p q)⟩
    · exact ⟨n, hn, hfr⟩

/-- joint invariant over (state, stack, seen) of the work-list, with a conclusion `Q` at exit -/
theorem workList_inv2 {σ ε : Type} (edges : List Edge) (step : σ → String → String → σ × Option ε)
    (P : σ → List {e : Edge // e ∈ edges} → List String → Prop) (Q : σ → List String → Option ε → Prop)
    (hdone : ∀ st seen, P st [] seen → Q st seen none)
    (herr : ∀ st pre post hmem rest seen st' e, P st (⟨(pre, post), hmem⟩ :: rest) seen →
      step st pre post = (st', some e) → Q st' seen (some e))
    (hok : ∀ st pre post hmem rest seen st', P st (⟨(pre, post), hmem⟩ :: rest) seen →
      step st pre post = (st', none) → P st' ((pushed edges post (post :: seen)).reverse ++ rest) (post :: seen))
    (st : σ) (stack : List {e : Edge // e ∈ edges}) (seen : List String) (h : P st stack seen) :
    Q (workList edges step st stack seen).1 (workList edges step st stack seen).2.1
      (workList edges step st stack seen).2.2 := by
  fun_induction workList edges step st stack seen with
  | case1 st seen => exact hdone _ _ h
  | case2 st seen pre post hmem rest st' e hs => exact herr _ _ _ _ _ _ _ _ h hs
  | case3 st seen pre post hmem rest st' hs ih => exact ih (hok _ _ _ _ _ _ _ h hs)

theorem forwardInference_frameInv (g : Node) : FrameInv g.children (forwardInference g).1 :=
  workList_inv2 g.edges processEdge (fun st _ _ => FrameInv g.children st) (fun st _ _ => FrameInv g.children st)
    (fun _ _ h => h) (fun st pre post _ _ _ _ _ h hs => by simpa [hs] using processEdge_frameInv pre post h)
    (fun st pre post _ _ _ _ h hs => by simpa [hs] using processEdge_frameInv pre post h) _ _ _ (FrameInv.refl _)

/-- `k` is the target of a non-empty path of edges starting at one of the `inputs`. -/
inductive Reach (edges : List Edge) (inputs : List String) : String → Prop
  | start {a b : String} : (a, b) ∈ edges → a ∈ inputs → Reach edges inputs b
  | step {a b : String} : (a, b) ∈ edges → Reach edges inputs a → Reach edges inputs b

theorem Reach.mono {edges : List Edge} {i1 i2 : List String} (h : ∀ a, a ∈ i1 → a ∈ i2) {k : String}
    (hr : Reach edges i1 k) : Reach edges i2 k := by
  induction hr with
  | start he ha => exact Reach.start he (h _ ha)
  | step he _ ih => exact Reach.step he ih

theorem mem_pushed (edges : List Edge) (post : String) (seen : List String) (e : {e : Edge // e ∈ edges}) :
    e ∈ pushed edges post seen ↔ e.1.1 = post ∧ e.1.2 ∉ seen := by
  simp [pushed, List.mem_filter]

theorem mem_initialStack (edges : List Edge) (inputs : List String) (e : {e : Edge // e ∈ edges}) :
    e ∈ initialStack edges inputs ↔ e.1.1 ∈ inputs := by
  simp [initialStack, List.mem_filter]

theorem mem_initialSeen (edges : List Edge) (inputs : List String) (k : String) :
    k ∈ initialSeen edges inputs ↔ k ∈ inputs ∧ ∃ b, (k, b) ∈ edges := by
  simp only [initialSeen, List.mem_map, List.mem_filter]
  constructor
  · rintro ⟨⟨a, b⟩, ⟨hmem, hin⟩, rfl⟩
    exact ⟨by simpa using hin, b, hmem⟩
  · rintro ⟨hin, b, hmem⟩
    exact ⟨(k, b), ⟨hmem, by simpa using hin⟩, rfl⟩

/-- The invariant of the work-list run on graph `g`; `Good` is what every processed node satisfies.  About the search:
`srcSeen` (an edge is pushed when its source is marked), `sound` (only reachable names are marked), `closed` (an edge out
of a marked node leads to a marked node or still waits on the stack — with the empty stack: `seen` is closed under
successors), `initSeen` (the seeding is never undone).  About the table: `untouched` (an unmarked name holds the node of
`g`), `modReach` (so does every name that is not reachable, marked or not: an Input is marked and never written),
`present` and `good` (a marked name is in the table and holds a `Good` node). -/
structure RunInv (g : Node) (inputs : List String) (Good : String → Node → Prop)
    (nodes : Nodes) (stack : List {e : Edge // e ∈ g.edges}) (seen : List String) : Prop where
  srcSeen : ∀ e ∈ stack, e.1.1 ∈ seen
  sound : ∀ k ∈ seen, k ∈ inputs ∨ Reach g.edges inputs k
  closed : ∀ e : {e : Edge // e ∈ g.edges}, e.1.1 ∈ seen → e.1.2 ∈ seen ∨ e ∈ stack
  initSeen : ∀ k ∈ initialSeen g.edges inputs, k ∈ seen
  untouched : ∀ k, k ∉ seen → lookup k nodes = lookup k g.children
  modReach : ∀ k, lookup k nodes ≠ lookup k g.children → Reach g.edges inputs k
  present : ∀ k ∈ seen, (lookup k nodes).isSome = true
  good : ∀ k ∈ seen, ∀ n, lookup k nodes = some n → Good k n

section
variable {g : Node} {inputs : List String} {Good : String → Node → Prop} {nodes : Nodes} {seen : List String}
  {pre post : String} {hmem : (pre, post) ∈ g.edges} {rest : List {e : Edge // e ∈ g.edges}}

theorem RunInv.reach_top (h : RunInv g inputs Good nodes (⟨(pre, post), hmem⟩ :: rest) seen) : Reach g.edges inputs post :=
  (h.sound pre (h.srcSeen ⟨(pre, post), hmem⟩ List.mem_cons_self)).elim (Reach.start hmem) (Reach.step hmem)

theorem RunInv.get {stack : List {e : Edge // e ∈ g.edges}} (h : RunInv g inputs Good nodes stack seen) {k : String}
    (hk : k ∈ seen) : ∃ n, lookup k nodes = some n ∧ Good k n :=
  (Option.isSome_iff_exists.mp (h.present k hk)).imp fun n hn => ⟨hn, h.good k hk n hn⟩

theorem RunInv.top (h : RunInv g inputs Good nodes (⟨(pre, post), hmem⟩ :: rest) seen) {preN postN : Node}
    (hpre : lookup pre nodes = some preN) (hpost : lookup post nodes = some postN) :
    Good pre preN ∧ (lookup post g.children = some postN ∨ Good post postN) :=
  ⟨h.good pre (h.srcSeen ⟨(pre, post), hmem⟩ List.mem_cons_self) preN hpre,
    (Classical.em (post ∈ seen)).symm.imp (fun hp => (h.untouched post hp).symm.trans hpost)
      (fun hp => h.good post hp postN hpost)⟩

theorem RunInv.reach_seen (h : RunInv g inputs Good nodes [] seen) {k : String} (hk : Reach g.edges inputs k) :
    k ∈ seen := by
  have hcl : ∀ a b, (a, b) ∈ g.edges → a ∈ seen → b ∈ seen := fun a b hab ha =>
    (h.closed ⟨(a, b), hab⟩ ha).resolve_right (by simp)
  induction hk with
  | @start a b hab ha => exact hcl a b hab (h.initSeen a ((mem_initialSeen _ _ _).mpr ⟨ha, b, hab⟩))
  | @step a b hab _ ih => exact hcl a b hab ih

end

theorem runInv_init (g : Node) (inputs : List String) (Good : String → Node → Prop)
    (hpresent : ∀ k ∈ inputs, (lookup k g.children).isSome = true)
    (hinit : ∀ k ∈ initialSeen g.edges inputs, ∀ n, lookup k g.children = some n → Good k n) :
    RunInv g inputs Good g.children (initialStack g.edges inputs) (initialSeen g.edges inputs) where
  srcSeen := fun e he => (mem_initialSeen _ _ _).mpr ⟨(mem_initialStack _ _ e).mp he, e.1.2, e.2⟩
  sound := fun _ hk => Or.inl ((mem_initialSeen _ _ _).mp hk).1
  closed := fun e he => Or.inr ((mem_initialStack _ _ e).mpr ((mem_initialSeen _ _ _).mp he).1)
  initSeen := fun _ hk => hk
  untouched := fun _ _ => rfl
  modReach := fun _ h => absurd rfl h
  present := fun k hk => hpresent k ((mem_initialSeen _ _ _).mp hk).1
  good := hinit

theorem runInv_step (g : Node) (inputs : List String) (Good : String → Node → Prop)
    (hstep : ∀ pre post preN postN, (pre, post) ∈ g.edges → Good pre preN →
      (lookup post g.children = some postN ∨ Good post postN) →
      (stepNode preN postN).2 = none → Good post (stepNode preN postN).1)
    {nodes nodes' : Nodes} {pre post : String} {hmem : (pre, post) ∈ g.edges}
    {rest : List {e : Edge // e ∈ g.edges}} {seen : List String}
    (h : RunInv g inputs Good nodes (⟨(pre, post), hmem⟩ :: rest) seen)
    (hs : processEdge nodes pre post = (nodes', none)) :
    RunInv g inputs Good nodes' ((pushed g.edges post (post :: seen)).reverse ++ rest) (post :: seen) := by
  rcases processEdge_cases nodes pre post with ⟨e, he⟩ | ⟨preN, postN, hpre, hpost, he⟩ <;> rw [he] at hs
  · cases hs
  obtain ⟨rfl, hnone⟩ := Prod.mk.inj hs
  have hgoodNew := hstep pre post preN postN hmem (h.top hpre hpost).1 (h.top hpre hpost).2 hnone
  -- at `post` the table holds the new node; elsewhere it and `seen` answer as before
  have hother : ∀ k, k ≠ post → lookup k (Py.insert post (stepNode preN postN).1 nodes) = lookup k nodes ∧
      (k ∈ post :: seen ↔ k ∈ seen) := fun k hne => ⟨lookup_insert_ne _ _ _ _ hne, by simp [hne]⟩
  refine { srcSeen := fun e he => ?_, sound := fun k hk => ?_, closed := fun e he => ?_,
           initSeen := fun k hk => List.mem_cons_of_mem _ (h.initSeen k hk), untouched := fun k hk => ?_,
           modReach := fun k hk => ?_, present := fun k hk => ?_, good := fun k hk n hn => ?_ }
  · rcases List.mem_append.mp he with he | he
    · exact ((mem_pushed _ _ _ e).mp (List.mem_reverse.mp he)).1 ▸ List.mem_cons_self
    · exact List.mem_cons_of_mem _ (h.srcSeen e (List.mem_cons_of_mem _ he))
  · rcases List.mem_cons.mp hk with rfl | hk
    · exact Or.inr h.reach_top
    · exact h.sound k hk
  · -- an edge whose target is still unseen was pushed just now, or was on the stack below the popped one
    refine (Classical.em (e.1.2 ∈ post :: seen)).imp_right fun h2 => ?_
    rcases List.mem_cons.mp he with he | he
    · exact List.mem_append.mpr (Or.inl (List.mem_reverse.mpr ((mem_pushed _ _ _ e).mpr ⟨he, h2⟩)))
    · rcases h.closed e he with h3 | h3
      · exact absurd (List.mem_cons_of_mem _ h3) h2
      · rcases List.mem_cons.mp h3 with rfl | h4
        · exact absurd List.mem_cons_self h2
        · exact List.mem_append.mpr (Or.inr h4)
  -- the four clauses about the table, each at `post` and then elsewhere
  all_goals by_cases hkp : k = post
  · exact absurd (hkp ▸ List.mem_cons_self) hk
  · rw [(hother k hkp).1]; exact h.untouched k (mt (hother k hkp).2.mpr hk)
  · exact hkp ▸ h.reach_top
  · exact h.modReach k ((hother k hkp).1 ▸ hk)
  · rw [hkp, lookup_insert_self]; rfl
  · rw [(hother k hkp).1]; exact h.present k ((hother k hkp).2.mp hk)
  · rw [hkp, lookup_insert_self] at hn; cases hn; exact hkp ▸ hgoodNew
  · exact h.good k ((hother k hkp).2.mp hk) n ((hother k hkp).1 ▸ hn)

theorem inputs_present (g : Node) : ∀ k ∈ (graphInputs g).map Prod.fst, (lookup k g.children).isSome = true := by
  intro k hk
  apply (lookup_isSome_iff_mem _ _).mpr
  simp only [graphInputs, List.mem_map, List.mem_filter] at hk ⊢
  obtain ⟨p, ⟨hp, _⟩, rfl⟩ := hk
  exact ⟨p, hp, rfl⟩

theorem graphInputs_lookup {g : Node} (hkeys : (g.children.map Prod.fst).Nodup) {k : String}
    (hk : k ∈ (graphInputs g).map Prod.fst) {n : Node} (hn : lookup k g.children = some n) : n.isKind "Input" = true := by
  simp only [graphInputs, List.mem_map, List.mem_filter] at hk
  obtain ⟨⟨k', n'⟩, ⟨hmem, hkind⟩, rfl⟩ := hk
  rw [lookup_of_mem_nodup _ hkeys _ _ hmem] at hn
  cases hn; exact hkind

/-- `RunInv` is an invariant of the loop for any `Good` that holds on the Input sources and that one successful body
propagates along an edge; a run that raises does so at a pop at which it held. -/
theorem forwardInference_run (g : Node) (Good : String → Node → Prop)
    (hinit : ∀ k ∈ initialSeen g.edges ((graphInputs g).map Prod.fst), ∀ n, lookup k g.children = some n → Good k n)
    (hstep : ∀ pre post preN postN, (pre, post) ∈ g.edges → Good pre preN →
      (lookup post g.children = some postN ∨ Good post postN) →
      (stepNode preN postN).2 = none → Good post (stepNode preN postN).1) :
    ((forwardInference g).2.2 = none →
      RunInv g ((graphInputs g).map Prod.fst) Good (forwardInference g).1 [] (forwardInference g).2.1) ∧
    ∀ e, (forwardInference g).2.2 = some e → ∃ nodes pre post hmem rest,
      RunInv g ((graphInputs g).map Prod.fst) Good nodes (⟨(pre, post), hmem⟩ :: rest) (forwardInference g).2.1 ∧
      processEdge nodes pre post = ((forwardInference g).1, some e) :=
  workList_inv2 g.edges processEdge (RunInv g ((graphInputs g).map Prod.fst) Good)
    (fun nodes' seen err => (err = none → RunInv g _ Good nodes' [] seen) ∧
      ∀ e, err = some e → ∃ nodes pre post hmem rest,
        RunInv g _ Good nodes (⟨(pre, post), hmem⟩ :: rest) seen ∧ processEdge nodes pre post = (nodes', some e))
    (fun _ _ h => ⟨fun _ => h, nofun⟩)
    (fun st pre post hmem rest _ _ _ h hs => ⟨nofun, fun _ he => Option.some.inj he ▸ ⟨st, pre, post, hmem, rest, h, hs⟩⟩)
    (fun _ _ _ _ _ _ _ h hs => runInv_step g _ Good hstep h hs)
    _ _ _ (runInv_init g _ Good (inputs_present g) hinit)

theorem forwardInference_touched (g : Node) :
    ∀ k, lookup k (forwardInference g).1 ≠ lookup k g.children →
      Reach g.edges ((graphInputs g).map Prod.fst) k := by
  have hrun := forwardInference_run g (fun _ _ => True) (fun _ _ _ _ => trivial) (fun _ _ _ _ _ _ _ _ => trivial)
  intro k hk
  cases herr : (forwardInference g).2.2 with
  | none => exact (hrun.1 herr).modReach k hk
  | some e =>
    obtain ⟨nodes, pre, post, hmem, rest, h, hs⟩ := hrun.2 e herr
    by_cases hkp : k = post
    · exact hkp ▸ h.reach_top
    · rw [← congrArg Prod.fst hs, processEdge_other hkp] at hk
      exact h.modReach k hk

/-- every edge joins two existing leaf nodes -/
def FlatEdges (g : Node) : Prop :=
  ∀ e ∈ g.edges, ∃ a b, lookup e.1 g.children = some a ∧ lookup e.2 g.children = some b ∧
    a.isKind "NIRGraph" = false ∧ b.isKind "NIRGraph" = false

theorem forwardInference_total (g : Node) (hflat : FlatEdges g) (Good : String → Node → Prop)
    (hinit : ∀ k ∈ initialSeen g.edges ((graphInputs g).map Prod.fst), ∀ n, lookup k g.children = some n → Good k n)
    (hstep : ∀ pre post preN postN, (pre, post) ∈ g.edges → Good pre preN →
      (lookup post g.children = some postN ∨ Good post postN) →
      (stepNode preN postN).2 = none ∧ Good post (stepNode preN postN).1)
    (hkind : ∀ k n, Good k n → n.isKind "NIRGraph" = false) :
    (forwardInference g).2.2 = none ∧
      RunInv g ((graphInputs g).map Prod.fst) Good (forwardInference g).1 [] (forwardInference g).2.1 := by
  have hrun := forwardInference_run g Good hinit (fun a b c d e f g' _ => (hstep a b c d e f g').2)
  cases herr : (forwardInference g).2.2 with
  | none => exact ⟨rfl, hrun.1 herr⟩
  | some e =>
    -- the pop that raised: both ends are in the table, its source is `Good`, its target is as in `g` or `Good`, so the
    -- body is reached and succeeds
    obtain ⟨st, pre, post, hmem, rest, h, hs⟩ := hrun.2 e herr
    obtain ⟨preN, hpre, -⟩ := h.get (h.srcSeen ⟨(pre, post), hmem⟩ List.mem_cons_self)
    obtain ⟨_, b, _, hb, _, kb⟩ := hflat (pre, post) hmem
    obtain ⟨postN, hpost⟩ : ∃ postN, lookup post st = some postN :=
      (Classical.em (post ∈ (forwardInference g).2.1)).elim (fun hp => (h.get hp).imp fun _ h => h.1)
        (fun hp => ⟨b, (h.untouched post hp).trans hb⟩)
    obtain ⟨hgoodPre, hcase⟩ := h.top hpre hpost
    have hk2 : postN.isKind "NIRGraph" = false :=
      hcase.elim (fun hc => by cases hb.symm.trans hc; exact kb) (hkind post postN)
    rw [processEdge_eq hpre hpost (hkind pre preN hgoodPre) hk2, (hstep pre post preN postN hmem hgoodPre hcase).1] at hs
    cases (Prod.mk.inj hs).2

theorem inferTypes_of_no_inputs {g : Node} (h : (graphInputs g).isEmpty = true) :
    inferTypes g = (g, some .notImplementedError) := by
  simp [inferTypes, h]

theorem inferTypes_of_inputs {g : Node} (h : (graphInputs g).isEmpty = false) :
    inferTypes g = (Node.mk g.kind g.fields (graphInputType (forwardInference g).1) (graphOutputType (forwardInference g).1)
      g.metadata (forwardInference g).1 g.edges, (forwardInference g).2.2) := by
  simp [inferTypes, h, Node.refreshIO]

theorem inferTypes_graph (g : Node) :
    (inferTypes g).1.kind = g.kind ∧ (inferTypes g).1.fields = g.fields ∧ (inferTypes g).1.metadata = g.metadata ∧
    (inferTypes g).1.edges = g.edges ∧
    (inferTypes g).1.children = if (graphInputs g).isEmpty then g.children else (forwardInference g).1 := by
  cases h : (graphInputs g).isEmpty
  · simp [inferTypes_of_inputs h]
  · simp [inferTypes_of_no_inputs h]

/-! ## `FlatEdges` and reachability from the Inputs, in a form that evaluation decides on a concrete graph -/

theorem flatEdges_of_keys {g : Node} (hleaf : ∀ kv ∈ g.children, kv.2.isKind "NIRGraph" = false)
    (hedges : ∀ e ∈ g.edges, e.1 ∈ g.children.map Prod.fst ∧ e.2 ∈ g.children.map Prod.fst) : FlatEdges g := by
  intro e he
  obtain ⟨a, ha⟩ := Option.isSome_iff_exists.mp ((lookup_isSome_iff_mem _ _).mpr (hedges e he).1)
  obtain ⟨b, hb⟩ := Option.isSome_iff_exists.mp ((lookup_isSome_iff_mem _ _).mpr (hedges e he).2)
  exact ⟨a, b, ha, hb, hleaf _ (mem_of_lookup _ _ _ ha), hleaf _ (mem_of_lookup _ _ _ hb)⟩

theorem reach_of_order {g : Node} (S : List String)
    (h : ∀ i (hi : i < S.length), ∃ a ∈ (graphInputs g).map Prod.fst ++ S.take i, (a, S[i]) ∈ g.edges)
    (hk : ∀ kv ∈ g.children, kv.2.isKind "Input" = true ∨ kv.1 ∈ S) (k : String) (n : Node)
    (hl : lookup k g.children = some n) : n.isKind "Input" = true ∨ Reach g.edges ((graphInputs g).map Prod.fst) k := by
  have key : ∀ i (hi : i < S.length), Reach g.edges ((graphInputs g).map Prod.fst) S[i] := by
    intro i
    induction i using Nat.strongRecOn with
    | ind i ih =>
      intro hi
      obtain ⟨a, ha, he⟩ := h i hi
      rcases List.mem_append.mp ha with ha | ha
      · exact Reach.start he ha
      · obtain ⟨j, hj, rfl⟩ := List.mem_take_iff_getElem.mp ha
        exact Reach.step he (ih j (by omega) (by omega))
  refine (hk _ (mem_of_lookup k n _ hl)).imp_right fun hm => ?_
  obtain ⟨i, hi, rfl⟩ := List.getElem_of_mem hm
  exact key i hi

/-! ## inference and the type check see the node dictionary through look-ups only

Two runs of the work-list from node tables that answer every look-up alike — e.g. the same dictionary in two orders — pop
the same edges in the same order, raise the same error (if any) and end in tables that again answer every look-up alike:
the stack and the `seen` set do not depend on the state at all (`workList_rel`). -/

theorem workList_rel {σ ε : Type} (edges : List Edge) (step : σ → String → String → σ × Option ε) (R : σ → σ → Prop)
    (hstep : ∀ a b pre post, R a b → R (step a pre post).1 (step b pre post).1 ∧ (step a pre post).2 = (step b pre post).2)
    (a : σ) (stack : List {e : Edge // e ∈ edges}) (seen : List String) :
    ∀ b, R a b →
      R (workList edges step a stack seen).1 (workList edges step b stack seen).1 ∧
      (workList edges step a stack seen).2 = (workList edges step b stack seen).2 := by
  fun_induction workList edges step a stack seen with
  | case1 st seen => exact fun b hab => by rw [workList]; exact ⟨hab, rfl⟩
  | case2 st seen pre post hmem rest st' e hs =>
    intro b hab
    obtain ⟨h1, h2⟩ := hstep st b pre post hab
    rw [hs] at h1 h2
    rw [workList, show step b pre post = ((step b pre post).1, some e) from Prod.ext rfl h2.symm]
    exact ⟨h1, rfl⟩
  | case3 st seen pre post hmem rest st' hs ih =>
    intro b hab
    obtain ⟨h1, h2⟩ := hstep st b pre post hab
    rw [hs] at h1 h2
    rw [workList, show step b pre post = ((step b pre post).1, none) from Prod.ext rfl h2.symm]
    exact ih _ h1

def SameLookups (n1 n2 : Nodes) : Prop := ∀ k, lookup k n1 = lookup k n2

theorem checkTypes_rel {g1 g2 : Node} (hl : SameLookups g1.children g2.children) (he : g1.edges = g2.edges) :
    checkTypes g1 = checkTypes g2 := by
  have : checkEdge g1.children = checkEdge g2.children := funext fun e => by simp only [checkEdge, hl e.1, hl e.2]
  simp only [checkTypes, this, he]

theorem sameLookups_insert {n1 n2 : Nodes} (h : SameLookups n1 n2) (key : String) (v : Node) :
    SameLookups (Py.insert key v n1) (Py.insert key v n2) :=
  fun k => by rw [lookup_insert_eq, lookup_insert_eq, h k]

theorem processEdge_rel (n1 n2 : Nodes) (pre post : String) (h : SameLookups n1 n2) :
    SameLookups (processEdge n1 pre post).1 (processEdge n2 pre post).1 ∧
    (processEdge n1 pre post).2 = (processEdge n2 pre post).2 := by
  unfold processEdge
  rw [h pre, h post]
  cases lookup pre n2 with
  | none => exact ⟨h, rfl⟩
  | some p =>
    cases lookup post n2 with
    | none => exact ⟨h, rfl⟩
    | some q =>
      simp only
      split
      · exact ⟨h, rfl⟩
      · exact ⟨sameLookups_insert h post _, rfl⟩

theorem forward_rel (edges : List Edge) {c1 c2 : Nodes} (hl : SameLookups c1 c2) {i1 i2 : List String}
    (hi : ∀ x, x ∈ i1 ↔ x ∈ i2) :
    SameLookups (workList edges processEdge c1 (initialStack edges i1) (initialSeen edges i1)).1
                (workList edges processEdge c2 (initialStack edges i2) (initialSeen edges i2)).1 ∧
    (workList edges processEdge c1 (initialStack edges i1) (initialSeen edges i1)).2 =
    (workList edges processEdge c2 (initialStack edges i2) (initialSeen edges i2)).2 := by
  simp only [initialStack, initialSeen, List.contains_eq_mem, hi]
  exact workList_rel edges processEdge SameLookups (fun a b pre post h => processEdge_rel a b pre post h) c1 _ _ c2 hl

end NirVerif.Lemmas
