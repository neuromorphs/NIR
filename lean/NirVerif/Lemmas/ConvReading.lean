import NirVerif.Lemmas.Typing
import NirVerif.Lemmas.Dict
/-
  `calculate_conv_output` sees its arguments only through `len()` and `_index_tuple`: any two values with the same
  integer reading (`IntReading`) give the same result, whether scalar, tuple, list or ndarray; on integer tuples it is
  the generated per-axis formula applied axis by axis.  Also: what `v[1]`, `v[1:]` and `tuple(v[1:])` of a shape value read as.
-/
namespace NirVerif.Lemmas
open NirVerif NirVerif.Py NirVerif.Model


/-- `v` is a non-scalar container that reads as the integers `xs` -/
structure IntReading (v : Val) (xs : List Int) : Prop where
  notInt : Val.asInt? v = none
  len : Val.len? v = some xs.length
  index : ∀ i (h : i < xs.length), indexTuple v i = .ok (.int xs[i])

theorem convAxisVal_congr {v v' p p' d d' k k' s s' : Val} (i : Nat)
    (hv : indexTuple v i = indexTuple v' i) (hsame : isSamePadding p = isSamePadding p')
    (hp : indexTuple p i = indexTuple p' i) (hd : indexTuple d i = indexTuple d' i)
    (hk : indexTuple k i = indexTuple k' i) (hs : indexTuple s i = indexTuple s' i) :
    convAxisVal v p d k s i = convAxisVal v' p' d' k' s' i := by
  simp only [convAxisVal, hv, hsame, hp, hd, hk, hs]

theorem calculateConvOutput_of_reading {v : Val} {xs : List Int} (hv : IntReading v xs) (p d k s : Val) :
    calculateConvOutput v p d k s =
      (List.range xs.length).mapM (convAxisVal v (normalisePadding xs.length p) d k s) := by
  simp only [calculateConvOutput, hv.notInt, hv.len]
  rfl

theorem calculateConvOutput_reading (v w : Val) (xs : List Int) (hv : IntReading v xs) (hw : IntReading w xs)
    (p d k s : Val) : calculateConvOutput v p d k s = calculateConvOutput w p d k s := by
  rw [calculateConvOutput_of_reading hv, calculateConvOutput_of_reading hw]
  exact mapM_congr _ _ _ fun i hi => convAxisVal_congr i
    (by rw [hv.index i (List.mem_range.mp hi), hw.index i (List.mem_range.mp hi)]) rfl rfl rfl rfl rfl

theorem reading_tuple {ys : List Val} {xs : List Int} (h : ys.mapM Val.asInt? = some xs) :
    IntReading (.tuple ys) xs where
  notInt := rfl
  len := by simp [Val.len?, mapM_some_length _ _ _ h]
  index := by
    intro i hi
    obtain ⟨a, ha, hfa⟩ := mapM_some_index _ _ _ h i hi
    simp [indexTuple, ha, hfa]

theorem reading_ints (xs : List Int) : IntReading (.tuple (xs.map Val.int)) xs :=
  reading_tuple (by simpa using mapM_map_some (f := Val.asInt?) (h := id) (fun _ => rfl) xs)

theorem mapM_asInt_npscalars (dt : DType) (hint : dt.isInteger = true) (bs : List Bytes) :
    (bs.map (Val.npscalar dt)).mapM Val.asInt? = some (bs.map (decodeInt dt)) :=
  mapM_map_some (by simp [Val.asInt?, hint]) bs

theorem asInt_nativeScalar (dt : DType) (hint : dt.isInteger = true) (b : Bytes) :
    Val.asInt? (nativeScalar dt b) = some (decodeInt dt b) := by
  have h2 : ({ dt with big := false } : DType).isInteger = true := by simpa [DType.isInteger] using hint
  simp only [nativeScalar, Val.asInt?, h2, if_true]
  cases hb : dt.big <;> simp [decodeInt, hb]

theorem reading_arr {dt : DType} {n : Nat} {d : Bytes} (hint : dt.isInteger = true)
    (hw : n = (decodeInts dt d).length) : IntReading (.arr dt [n] d) (decodeInts dt d) where
  notInt := rfl
  len := by simp [Val.len?, hw]
  index := by
    intro i hi
    have hi' : i < n := by rw [hw]; exact hi
    simp [indexTuple, hi', hint, List.getD, hi]

/-! ### the parts of a shape value that inference reads: `tuple(v[1:])` (Conv2d), `v[1]` (Conv1d), `v[0]` and `v[1:]` (pooling) -/

theorem tupleOfTail_reading {v : Val} {c : Int} {spatial : List Int} (h : Spec.shapeOfVal v = some (c :: spatial)) :
    ∃ ys, tupleOfTail v = .ok (.tuple ys) ∧ ys.mapM Val.asInt? = some spatial := by
  cases shapeOfVal_form h with
  | arr dt n d hint hd =>
    refine ⟨((chunks dt.size d).drop 1).map (nativeScalar dt), rfl, ?_⟩
    rw [mapM_map_some (asInt_nativeScalar dt hint), List.map_drop, ← decodeInts, hd]; rfl
  | empty dt d _ he => cases he
  | tuple ys hy | list ys hy =>
    cases ys with
    | nil => simp at hy
    | cons x xs' => exact ⟨xs', rfl, (mapM_cons_some _ _ _ _ _ hy).2⟩

theorem shapeIndex_reading {v : Val} {xs : List Int} (h : Spec.shapeOfVal v = some xs) (hw : WFShape v)
    (i : Nat) (hi : i < xs.length) :
    ∃ x, shapeIndex v i = .ok x ∧ Val.asInt? x = some xs[i] ∧ NoUnsigned x := by
  cases shapeOfVal_form h with
  | arr dt n d hint hd =>
    subst hd
    have hi' : i < (chunks dt.size d).length := by simpa [decodeInts] using hi
    exact ⟨nativeScalar dt (chunks dt.size d)[i], by simp [shapeIndex, hw.1, hi'],
      by simp [asInt_nativeScalar dt hint, decodeInts],
      fun dt' b' e => by simp only [nativeScalar, Val.npscalar.injEq] at e; rw [← e.1]; exact hw.2⟩
  | empty dt d _ he => subst he; cases hi
  | tuple ys hy | list ys hy =>
    obtain ⟨a, ha, hfa⟩ := mapM_some_index _ _ _ hy i hi
    exact ⟨a, by simp [shapeIndex, ha], hfa, hw a (List.mem_of_getElem? ha)⟩

theorem shapeTail_reading {v : Val} {c : Int} {spatial : List Int} (h : Spec.shapeOfVal v = some (c :: spatial))
    (hw : WFShape v) : ∃ y, shapeTail v = .ok y ∧ IntReading y spatial := by
  cases shapeOfVal_form h with
  | arr dt n d hint hd =>
    obtain ⟨b, rest, hc, -, hrest⟩ := List.map_eq_cons_iff.mp hd
    have hsz : 1 ≤ dt.size := Nat.pos_of_ne_zero fun hz => by rw [hz, chunks_zero] at hc; cases hc
    have hdec : decodeInts dt (d.drop dt.size) = spatial := by rw [decodeInts, chunks_drop _ hsz, hc]; exact hrest
    refine ⟨.arr dt [n - 1] (d.drop dt.size), rfl, ?_⟩
    rw [← hdec]
    exact reading_arr hint (by rw [hdec, hw.1, hc, ← hrest]; simp)
  | empty dt d _ he => cases he
  | tuple ys hy | list ys hy =>
    cases ys with
    | nil => simp at hy
    | cons x xs' =>
      -- a list is read through the same branches as a tuple
      have hrd := reading_tuple (mapM_cons_some _ _ _ _ _ hy).2
      exact ⟨_, rfl, rfl, hrd.len, hrd.index⟩

/-! ### Conv1d: the input shape is a single integer -/

theorem indexTuple_scalar {x : Val} {k : Int} (h : Val.asInt? x = some k) (i : Nat) :
    indexTuple x i = .ok (.int k) := by
  cases x <;> simp [Val.asInt?] at h <;> simp_all [indexTuple]

theorem calculateConvOutput_scalar (x y : Val) (k : Int) (hx : Val.asInt? x = some k) (hy : Val.asInt? y = some k)
    (p d kk s : Val) : calculateConvOutput x p d kk s = calculateConvOutput y p d kk s := by
  simp only [calculateConvOutput, hx, hy]
  simp only [bind, Except.bind, pure, Except.pure]
  exact mapM_congr _ _ _ fun i _ => convAxisVal_congr i
    (by rw [indexTuple_scalar hx, indexTuple_scalar hy]) rfl rfl rfl rfl rfl

theorem poolArray_cons {c o : Int} {os : List Int} {x : Val} (hx : NoUnsigned x) :
    poolArray c (o :: os) x = .ok (shapeArray (c :: o :: os)) := by
  unfold poolArray
  split
  · rename_i h; cases h
  · rename_i dt b _
    have : dt.kind ≠ DKind.uint := hx dt b rfl
    have e : (dt.kind == DKind.uint) = false := by simpa using this
    simp [e]
  · rfl

def SameIdx (n : Nat) (v w : Val) : Prop := ∀ i, i < n → indexTuple v i = indexTuple w i

/-- not a string, so neither `'same'` nor `'valid'`: padding given numerically -/
def NotStr (v : Val) : Prop := ∀ s, v ≠ .str s

theorem sameIdx_of_reading (v w : Val) (xs : List Int) (hv : IntReading v xs) (hw : IntReading w xs) :
    SameIdx xs.length v w := fun i hi => by rw [hv.index i hi, hw.index i hi]

theorem isSame_notStr {p : Val} (h : NotStr p) : isSamePadding p = false := by
  cases p <;> first | rfl | (rename_i s; exact absurd rfl (h s))

theorem valid_notStr {p : Val} (h : NotStr p) (n : Nat) : normalisePadding n p = p := by
  cases p <;> first | rfl | (rename_i s; exact absurd rfl (h s))

theorem indexTuple_ints (xs : List Int) (i : Nat) (hi : i < xs.length) :
    indexTuple (.tuple (xs.map Val.int)) i = .ok (.int (xs.getD i 0)) := by
  have := (reading_ints xs).index i hi
  rw [this]
  simp [List.getD, hi]

theorem calculateConvOutput_ints {ns ps ds ks ss : List Int}
    (hp : ps.length = ns.length) (hd : ds.length = ns.length) (hk : ks.length = ns.length) (hs : ss.length = ns.length)
    (hnz : ∀ i, i < ns.length → ss.getD i 0 ≠ 0) :
    calculateConvOutput (.tuple (ns.map Val.int)) (.tuple (ps.map Val.int)) (.tuple (ds.map Val.int))
        (.tuple (ks.map Val.int)) (.tuple (ss.map Val.int)) =
      .ok ((List.range ns.length).map fun i =>
        Generated.convAxis (ns.getD i 0) (ps.getD i 0) (ds.getD i 0) (ks.getD i 0) (ss.getD i 0)) := by
  rw [calculateConvOutput_of_reading (reading_ints ns)]
  refine mapM_eq_ok_map _ _ _ fun i hi => ?_
  have hi' : i < ns.length := List.mem_range.mp hi
  simp only [convAxisVal, normalisePadding, isSamePadding, Bool.false_eq_true, if_false,
    indexTuple_ints ns i hi', indexTuple_ints ps i (by omega), indexTuple_ints ds i (by omega),
    indexTuple_ints ks i (by omega), indexTuple_ints ss i (by omega), bind, Except.bind, Idx.toInt,
    hnz i hi', if_false]

end NirVerif.Lemmas
