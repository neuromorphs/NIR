import NirVerif.Model.Graph
import NirVerif.Lemmas.Node
import NirVerif.Lemmas.Dict
/-!
  The body of the inference loop (`stepNode`), step by step: what each of `inferInput`, `mirrorOutput`, `inferOutput`
  returns, and from that what the body may change on the successor (`Frame`, a preorder) and what a successful body
  leaves behind.
-/
namespace NirVerif.Lemmas

open NirVerif NirVerif.Py NirVerif.Model

theorem inferInput_form {pre post post1 : Node} (h : inferInput pre post = .ok post1) :
    (post1 = post ∧ needsInput pre post = .ok false) ∨
      ∃ t, renameKeys "output" "input" pre.outputType = .ok t ∧ post1 = post.setInputType t := by
  unfold inferInput at h
  split at h
  · cases h
  · cases h; exact Or.inl ⟨rfl, by assumption⟩
  · split at h
    · cases h
    · cases h; exact Or.inr ⟨_, by assumption, rfl⟩

theorem mirrorOutput_of_ne {p : Node} (h : p.kind ≠ "Output") : mirrorOutput p = .ok p := by
  simp [mirrorOutput, Node.isKind, h, pure, Except.pure]

theorem mirrorOutput_output {p : Node} (h : p.kind = "Output") :
    mirrorOutput p = (renameKeys "input" "output" p.inputType).map p.setOutputType := by
  simp only [mirrorOutput, Node.isKind, h, beq_self_eq_true, if_true]
  cases renameKeys "input" "output" p.inputType <;> rfl

theorem mirrorOutput_ok {p q : Node} (h : mirrorOutput p = .ok q) :
    (p.kind ≠ "Output" ∧ q = p) ∨
      (p.kind = "Output" ∧ ∃ t, renameKeys "input" "output" p.inputType = .ok t ∧ q = p.setOutputType t) := by
  by_cases hk : p.kind = "Output"
  · rw [mirrorOutput_output hk] at h
    cases hr : renameKeys "input" "output" p.inputType with
    | error e => rw [hr] at h; cases h
    | ok t => rw [hr] at h; cases h; exact Or.inr ⟨hk, t, rfl, rfl⟩
  · rw [mirrorOutput_of_ne hk] at h; cases h; exact Or.inl ⟨hk, rfl⟩

/-- kinds whose output type `inferOutput` recomputes -/
def Recomputed (k : String) : Prop :=
  (k = "Conv1d" ∨ k = "Conv2d") ∨ (k = "SumPool2d" ∨ k = "AvgPool2d") ∨ k = "Flatten"

/-- kinds whose output type inference (re)computes -/
def inferable (k : String) : Bool :=
  k == "Conv1d" || k == "Conv2d" || k == "SumPool2d" || k == "AvgPool2d" || k == "Flatten" || k == "Output"

theorem inferable_iff (k : String) : inferable k = true ↔ Recomputed k ∨ k = "Output" := by
  simp [inferable, Recomputed, or_assoc]

theorem inferOutput_of_defined (pre : Node) {p : Node} (h : typeUndefined p.outputType = false) :
    inferOutput pre p = (p, none) := by
  simp [inferOutput, h]

theorem inferOutput_of_kind (pre : Node) {p : Node} (h : ¬ Recomputed p.kind) : inferOutput pre p = (p, none) := by
  simp only [Recomputed, not_or] at h
  simp [inferOutput, Node.isKind, h]

theorem inferOutput_conv (pre : Node) {p : Node} (hu : typeUndefined p.outputType = true)
    (hk : p.kind = "Conv1d" ∨ p.kind = "Conv2d") : inferOutput pre p = inferConv p := by
  simp [inferOutput, Node.isKind, hu, hk]

theorem inferOutput_pool (pre : Node) {p : Node} (hu : typeUndefined p.outputType = true)
    (hk : p.kind = "SumPool2d" ∨ p.kind = "AvgPool2d") : inferOutput pre p = inferPool pre p := by
  rcases hk with hk | hk <;> simp [inferOutput, Node.isKind, hu, hk]

theorem inferOutput_flatten (pre : Node) {p : Node} (hu : typeUndefined p.outputType = true)
    (hk : p.kind = "Flatten") : inferOutput pre p = inferFlatten p := by
  simp [inferOutput, Node.isKind, hu, hk]

theorem inferOutput_cases (pre p : Node) :
    (inferOutput pre p = (p, none) ∧ (typeUndefined p.outputType = false ∨ ¬ Recomputed p.kind)) ∨
    (typeUndefined p.outputType = true ∧
      (((p.kind = "Conv1d" ∨ p.kind = "Conv2d") ∧ inferOutput pre p = inferConv p) ∨
       ((p.kind = "SumPool2d" ∨ p.kind = "AvgPool2d") ∧ inferOutput pre p = inferPool pre p) ∨
       (p.kind = "Flatten" ∧ inferOutput pre p = inferFlatten p))) := by
  by_cases hu : typeUndefined p.outputType = true
  · by_cases hk : Recomputed p.kind
    · rcases hk with hk | hk | hk
      · exact Or.inr ⟨hu, Or.inl ⟨hk, inferOutput_conv pre hu hk⟩⟩
      · exact Or.inr ⟨hu, Or.inr (Or.inl ⟨hk, inferOutput_pool pre hu hk⟩)⟩
      · exact Or.inr ⟨hu, Or.inr (Or.inr ⟨hk, inferOutput_flatten pre hu hk⟩)⟩
    · exact Or.inl ⟨inferOutput_of_kind pre hk, Or.inr hk⟩
  · have hd : typeUndefined p.outputType = false := by simpa using hu
    exact Or.inl ⟨inferOutput_of_defined pre hd, Or.inl hd⟩

def isNoneVal : Val → Bool | .none => true | _ => false

theorem typeUndefined_dict (kvs : List (String × Val)) :
    typeUndefined (.dict kvs) = kvs.any (fun kv => isNoneVal kv.2) := by
  simp only [typeUndefined]; congr 1

theorem renameKeys_defined {a b : String} {d t : Val} (h : renameKeys a b d = .ok t)
    (hd : typeUndefined d = false) : typeUndefined t = false := by
  cases d with
  | dict kvs =>
    simp only [renameKeys, Except.ok.injEq] at h
    subst h
    rw [typeUndefined_dict] at hd ⊢
    apply insertAll_values
    · rfl
    · rw [List.any_map]; exact hd
  | _ => simp [renameKeys] at h

theorem typeUndefined_typeDict_arr (key : String) (xs : List Int) :
    typeUndefined (typeDict key (shapeArray xs)) = false := by
  simp only [typeDict, shapeArray, Val.ofInts]
  split <;> simp [typeUndefined]

theorem typeUndefined_typeDict_flattenArray (key : String) (it : Val) (xs : List Int) :
    typeUndefined (typeDict key (flattenArray it xs)) = false := by
  unfold flattenArray
  split
  · split
    · simp [typeDict, typeUndefined]
    · exact typeUndefined_typeDict_arr _ _
  · exact typeUndefined_typeDict_arr _ _

theorem flattenShapes_defined {p : Node} {out : Val} {b : Bool} (h : flattenShapes p = .ok (out, b)) :
    typeUndefined (typeDict "output" out) = false := by
  simp only [flattenShapes, bind, Except.bind, pure, Except.pure] at h
  repeat' split at h
  all_goals (try cases h)
  all_goals exact typeUndefined_typeDict_flattenArray _ _ _

theorem convOutputType_defined {p : Node} {v t : Val} (h : convOutputType p v = .ok t) :
    typeUndefined t = false := by
  simp only [convOutputType, bind, Except.bind, pure, Except.pure] at h
  repeat' split at h
  all_goals (try cases h)
  all_goals exact typeUndefined_typeDict_arr _ _

theorem poolArray_defined {c : Int} {out : List Int} {cv a : Val} (h : poolArray c out cv = .ok a) :
    typeUndefined (typeDict "output" a) = false := by
  unfold poolArray at h
  split at h
  · cases h; simp [typeDict, typeUndefined]
  · split at h
    · cases h
    · cases h; exact typeUndefined_typeDict_arr _ _
  · cases h; exact typeUndefined_typeDict_arr _ _

theorem poolOutputType_defined {pre p : Node} {t : Val} (h : poolOutputType pre p = .ok t) :
    typeUndefined t = false := by
  simp only [poolOutputType, bind, Except.bind, pure, Except.pure] at h
  repeat' split at h
  all_goals (try cases h)
  all_goals (rename_i ha; exact poolArray_defined ha)

/-- `q`: a Conv is given `input_shape` before its output type is computed, and keeps it if that raises.  An `err` beside a
defined output type is Flatten's element-count assertion, which comes after the assignment. -/
theorem inferOutput_form (pre p : Node) :
    (inferOutput pre p = (p, none) ∧ (typeUndefined p.outputType = false ∨ ¬ Recomputed p.kind)) ∨
    (typeUndefined p.outputType = true ∧
      ∃ q, (q = p ∨ ((p.kind = "Conv1d" ∨ p.kind = "Conv2d") ∧ ∃ v, q = p.setField "input_shape" v)) ∧
        ((∃ e, inferOutput pre p = (q, some e)) ∨
          ∃ t err, typeUndefined t = false ∧ inferOutput pre p = (q.setOutputType t, err))) := by
  rcases inferOutput_cases pre p with h | ⟨hu, ⟨hk, h⟩ | ⟨_, h⟩ | ⟨_, h⟩⟩
  · exact Or.inl h
  all_goals refine Or.inr ⟨hu, ?_⟩; rw [h]
  · unfold inferConv
    cases convInputShape p with
    | error e => exact ⟨p, Or.inl rfl, Or.inl ⟨e, rfl⟩⟩
    | ok v =>
      dsimp only
      refine ⟨p.setField "input_shape" v, Or.inr ⟨hk, v, rfl⟩, ?_⟩
      cases hot : convOutputType (p.setField "input_shape" v) v with
      | error e => exact Or.inl ⟨e, rfl⟩
      | ok t => exact Or.inr ⟨t, none, convOutputType_defined hot, rfl⟩
  · unfold inferPool
    refine ⟨p, Or.inl rfl, ?_⟩
    cases hot : poolOutputType pre p with
    | error e => exact Or.inl ⟨e, rfl⟩
    | ok t => exact Or.inr ⟨t, none, poolOutputType_defined hot, rfl⟩
  · unfold inferFlatten
    refine ⟨p, Or.inl rfl, ?_⟩
    cases hfs : flattenShapes p with
    | error e => exact Or.inl ⟨e, rfl⟩
    | ok r =>
      obtain ⟨out, ok⟩ := r
      exact Or.inr ⟨_, if ok then none else some .assertionError, flattenShapes_defined hfs, by cases ok <;> rfl⟩

theorem stepNode_of_ok {pre post p1 p2 : Node} (h1 : inferInput pre post = .ok p1) (h2 : mirrorOutput p1 = .ok p2) :
    stepNode pre post = inferOutput pre p2 := by
  simp only [stepNode, h1, h2]

theorem stepNode_ok {pre post : Node} (h : (stepNode pre post).2 = none) :
    ∃ p1 p2, inferInput pre post = .ok p1 ∧ mirrorOutput p1 = .ok p2 ∧ stepNode pre post = inferOutput pre p2 := by
  cases h1 : inferInput pre post with
  | error e => simp [stepNode, h1] at h
  | ok p1 =>
    cases h2 : mirrorOutput p1 with
    | error e => simp [stepNode, h1, h2] at h
    | ok p2 => exact ⟨p1, p2, rfl, h2, stepNode_of_ok h1 h2⟩

/-- What one loop body may do to the successor `a`: set its types and, on a Conv whose output type was undefined,
`input_shape`; a defined output type of a node other than an Output is kept. -/
def Frame (a n : Node) : Prop :=
  n.kind = a.kind ∧ n.metadata = a.metadata ∧ n.children = a.children ∧ n.edges = a.edges ∧
  (n.fields = a.fields ∨
    (typeUndefined a.outputType = true ∧ (a.kind = "Conv1d" ∨ a.kind = "Conv2d") ∧
      ∃ v, n.fields = Py.insert "input_shape" v a.fields)) ∧
  (typeUndefined a.outputType = false → a.kind ≠ "Output" → n.outputType = a.outputType)

theorem Frame.refl (a : Node) : Frame a a := ⟨rfl, rfl, rfl, rfl, Or.inl rfl, fun _ _ => rfl⟩

theorem Frame.trans {a b c : Node} (hab : Frame a b) (hbc : Frame b c) : Frame a c := by
  obtain ⟨k1, m1, c1, e1, f1, o1⟩ := hab
  obtain ⟨k2, m2, c2, e2, f2, o2⟩ := hbc
  refine ⟨k2.trans k1, m2.trans m1, c2.trans c1, e2.trans e1, ?_, ?_⟩
  · rcases f2 with f2 | ⟨hu2, hk2, v2, f2⟩
    · rw [f2]; exact f1
    · rw [k1] at hk2
      have hne : a.kind ≠ "Output" := by rcases hk2 with h | h <;> rw [h] <;> decide
      -- had `a`'s output type been defined, `b` (not an Output) would have kept it
      have hua : typeUndefined a.outputType = true := by
        cases hua : typeUndefined a.outputType with
        | true => rfl
        | false => rw [o1 hua hne, hua] at hu2; exact hu2
      refine Or.inr ⟨hua, hk2, v2, ?_⟩
      rcases f1 with f1 | ⟨_, _, v, f1⟩
      · rw [f2, f1]
      · rw [f2, f1, insert_insert]
  · intro hu hne
    have hb := o1 hu hne
    rw [o2 (by rw [hb]; exact hu) (by rw [k1]; exact hne), hb]

theorem Frame.setInputType (p : Node) (t : Val) : Frame p (p.setInputType t) := by simp [Frame]

theorem Frame.setOutputType {p : Node} (t : Val) (h : typeUndefined p.outputType = true ∨ p.kind = "Output") :
    Frame p (p.setOutputType t) := by
  rcases h with h | h <;> simp [Frame, h]

theorem Frame.setInputShape {p : Node} (v : Val) (hu : typeUndefined p.outputType = true)
    (hk : p.kind = "Conv1d" ∨ p.kind = "Conv2d") : Frame p (p.setField "input_shape" v) := by
  simpa [Frame] using Or.inr ⟨hu, hk, v, rfl⟩

theorem inferInput_frame {pre post p1 : Node} (h : inferInput pre post = .ok p1) : Frame post p1 := by
  rcases inferInput_form h with ⟨rfl, _⟩ | ⟨t, _, rfl⟩
  · exact Frame.refl _
  · exact Frame.setInputType _ _

theorem mirrorOutput_frame {p q : Node} (h : mirrorOutput p = .ok q) : Frame p q := by
  rcases mirrorOutput_ok h with ⟨_, rfl⟩ | ⟨hk, t, _, rfl⟩
  · exact Frame.refl _
  · exact Frame.setOutputType t (Or.inr hk)

theorem inferOutput_frame (pre p : Node) : Frame p (inferOutput pre p).1 := by
  rcases inferOutput_form pre p with ⟨h, _⟩ | ⟨hu, q, hq, h⟩
  · rw [h]; exact Frame.refl _
  · have hpq : Frame p q ∧ typeUndefined q.outputType = true := by
      rcases hq with rfl | ⟨hk, v, rfl⟩
      · exact ⟨Frame.refl _, hu⟩
      · exact ⟨Frame.setInputShape v hu hk, by simpa using hu⟩
    rcases h with ⟨e, h⟩ | ⟨t, err, _, h⟩ <;> rw [h]
    · exact hpq.1
    · exact hpq.1.trans (Frame.setOutputType t (Or.inl hpq.2))

theorem stepNode_frame (pre post : Node) : Frame post (stepNode pre post).1 := by
  cases h1 : inferInput pre post with
  | error e => simp only [stepNode, h1]; exact Frame.refl _
  | ok p1 =>
    cases h2 : mirrorOutput p1 with
    | error e => simp only [stepNode, h1, h2]; exact inferInput_frame h1
    | ok p2 =>
      rw [stepNode_of_ok h1 h2]
      exact (inferInput_frame h1).trans ((mirrorOutput_frame h2).trans (inferOutput_frame pre p2))

def DefinedBoth (n : Node) : Prop :=
  typeUndefined n.inputType = false ∧ typeUndefined n.outputType = false

theorem needsInput_false {pre post : Node} (h : needsInput pre post = .ok false) :
    typeUndefined post.inputType = false := by
  simp only [needsInput, bind, Except.bind, pure, Except.pure] at h
  -- every branch that does not raise returns `typeUndefined post.inputType || mismatch`
  repeat' split at h
  all_goals first | cases h | exact (Bool.or_eq_false_iff.mp (Except.ok.inj h)).1

theorem inferOutput_defined {pre p : Node} (hok : (inferOutput pre p).2 = none)
    (hstat : Recomputed p.kind ∨ typeUndefined p.outputType = false) :
    typeUndefined (inferOutput pre p).1.outputType = false ∧ (inferOutput pre p).1.inputType = p.inputType := by
  rcases inferOutput_form pre p with ⟨h, hwhy⟩ | ⟨_, q, hq, ⟨e, h⟩ | ⟨t, err, ht, h⟩⟩ <;> rw [h] at hok ⊢
  · exact ⟨hwhy.elim id hstat.resolve_left, rfl⟩
  · cases hok
  · rcases hq with rfl | ⟨_, v, rfl⟩ <;> exact ⟨by simpa using ht, by simp⟩

theorem stepNode_defined {pre post : Node} (hpre : typeUndefined pre.outputType = false)
    (hstat : inferable post.kind = true ∨ typeUndefined post.outputType = false)
    (hok : (stepNode pre post).2 = none) : DefinedBoth (stepNode pre post).1 := by
  obtain ⟨p1, p2, h1, h2, hs⟩ := stepNode_ok hok
  rw [hs] at hok ⊢
  have hp1 : typeUndefined p1.inputType = false ∧ p1.outputType = post.outputType ∧ p1.kind = post.kind := by
    rcases inferInput_form h1 with ⟨rfl, hn⟩ | ⟨t, ht, rfl⟩
    · exact ⟨needsInput_false hn, rfl, rfl⟩
    · exact ⟨by simpa using renameKeys_defined ht hpre, by simp, by simp⟩
  have hp2 : typeUndefined p2.inputType = false ∧ (Recomputed p2.kind ∨ typeUndefined p2.outputType = false) := by
    rcases mirrorOutput_ok h2 with ⟨hk, rfl⟩ | ⟨hk, t, ht, rfl⟩
    · rw [hp1.2.1, hp1.2.2]
      rw [inferable_iff] at hstat
      exact ⟨hp1.1, hstat.imp (fun h => h.resolve_right (hp1.2.2 ▸ hk)) id⟩
    · exact ⟨by simpa using hp1.1, Or.inr (by simpa using renameKeys_defined ht hp1.1)⟩
  obtain ⟨ho, hi⟩ := inferOutput_defined hok hp2.2
  exact ⟨by rw [hi]; exact hp2.1, ho⟩

theorem renameKeys_single (a b k : String) (v : Val) :
    renameKeys a b (.dict [(k, v)]) = .ok (.dict [(pyReplace k a b, v)]) := rfl

theorem stepNode_output_eq {pre post : Node} {k : String} {v : Val} (hk : post.kind = "Output")
    (h1 : inferInput pre post = .ok (post.setInputType (.dict [(k, v)]))) :
    stepNode pre post =
      ((post.setInputType (.dict [(k, v)])).setOutputType (.dict [(pyReplace k "input" "output", v)]), none) := by
  have h2 : mirrorOutput (post.setInputType (.dict [(k, v)])) = .ok ((post.setInputType (.dict [(k, v)])).setOutputType
      (.dict [(pyReplace k "input" "output", v)])) := by
    rw [mirrorOutput_output (by simpa using hk)]; simp [renameKeys_single, Except.map]
  rw [stepNode_of_ok h1 h2, inferOutput_of_kind pre (by simp [Recomputed, hk])]

theorem stepNode_annotated_eq {pre post : Node} {t : Val} (hk : post.kind ≠ "Output")
    (hout : typeUndefined post.outputType = false) (h1 : inferInput pre post = .ok (post.setInputType t)) :
    stepNode pre post = (post.setInputType t, none) := by
  rw [stepNode_of_ok h1 (mirrorOutput_of_ne (by simpa using hk)), inferOutput_of_defined pre (by simpa using hout)]

theorem stepNode_erased_eq {pre post : Node} {t : Val} (hk : post.kind ≠ "Output")
    (h1 : inferInput pre post = .ok (post.setInputType t)) :
    stepNode pre post = inferOutput pre (post.setInputType t) :=
  stepNode_of_ok h1 (mirrorOutput_of_ne (by simpa using hk))

theorem inferFlatten_eq {p : Node} {v : Val} {s : List Int} {sd ed : Int}
    (hpi : p.inputType = typeDict "input" v) (hsi : shapeInts v = .ok s)
    (hsd : (p.field? "start_dim").bind Val.asInt? = some sd) (hed : (p.field? "end_dim").bind Val.asInt? = some ed)
    (hcount : Py.prod s = Py.prod (calcFlattenOutput s sd ed)) :
    inferFlatten p = (p.setOutputType (typeDict "output" (flattenArray v (calcFlattenOutput s sd ed))), none) := by
  simp [inferFlatten, flattenShapes, hpi, getItem_typeDict, hsi, hsd, hed, hcount, bind, Except.bind, pure, Except.pure]

/-- the kernel tuple `weight.shape[2:]` -/
def kernelOf (wsh : List Nat) : Val := .tuple ((wsh.drop 2).map fun k => Val.int (Int.ofNat k))

theorem convOutputType_eq {q : Node} {ishape w : Val} {wsh : List Nat} {outs : List Int}
    (hw : q.field? "weight" = some w) (hwsh : getShape w = .ok wsh) (hrank : 1 ≤ wsh.length)
    (hcalc : calculateConvOutput ishape ((q.field? "padding").getD .none) ((q.field? "dilation").getD .none)
      (kernelOf wsh) ((q.field? "stride").getD .none) = .ok outs) :
    convOutputType q ishape = .ok (typeDict "output" (shapeArray (Int.ofNat (wsh.getD 0 0) :: outs))) := by
  have hlen : ¬ wsh.length < 1 := by omega
  simp only [kernelOf] at hcalc
  simp only [convOutputType, hw, hwsh, hlen, hcalc, bind, Except.bind, pure, Except.pure, if_false]

theorem inferConv_eq {p : Node} {ishape w : Val} {wsh : List Nat} {outs : List Int}
    (his : convInputShape p = .ok ishape)
    (hw : p.field? "weight" = some w) (hwsh : getShape w = .ok wsh) (hrank : 1 ≤ wsh.length)
    (hcalc : calculateConvOutput ishape ((p.field? "padding").getD .none) ((p.field? "dilation").getD .none)
      (kernelOf wsh) ((p.field? "stride").getD .none) = .ok outs) :
    inferConv p = ((p.setField "input_shape" ishape).setOutputType
      (typeDict "output" (shapeArray (Int.ofNat (wsh.getD 0 0) :: outs))), none) := by
  have hf : ∀ k, k ≠ "input_shape" → (p.setField "input_shape" ishape).field? k = p.field? k := fun k hk => by
    simp [Node.field?, lookup_insert_ne _ _ _ _ hk]
  have := convOutputType_eq (q := p.setField "input_shape" ishape) (ishape := ishape) (by rw [hf _ (by decide)]; exact hw) hwsh
    hrank (by rw [hf _ (by decide), hf _ (by decide), hf _ (by decide)]; exact hcalc)
  simp only [inferConv, his, this]

end NirVerif.Lemmas
