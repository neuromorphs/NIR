import NirVerif.Lemmas.FileForm
import NirVerif.Lemmas.FromDict
/-
  What `dict2NIRNode` makes of the dictionary a reader returns for the dictionary `d` of one leaf node (`Back n d D`) —
  for any amount of fuel, so that the lemmas apply to the children of a graph.  The file side is `Back` read for a
  leaf dictionary (`leaf_view`), the dictionary side the `fromDictFuel` equations and `construct_congr`.
-/
namespace NirVerif.Lemmas
open NirVerif NirVerif.Py NirVerif.Model NirVerif.C01

theorem leaf_view {n : Nat} {fields extra D : List (String × Val)} {md : Val} {kind : String}
    (hnt : lookup "type" fields = none) (hnm : lookup "metadata" fields = none)
    (hnd : ∀ k v, lookup k fields = some v → ∀ s, v ≠ .dict s)
    (hx : ∀ kv ∈ extra, kv.1 ≠ "metadata" ∧ ∀ s, kv.2 ≠ .dict s)
    (hB : Back n (fields ++ ("metadata", md) :: ("type", Val.str kind) :: extra) D) :
    (D.map Prod.fst).Nodup ∧ lookup "type" D = some (.str kind) ∧ (md = .dict [] → lookup "metadata" D = none) ∧
    ∀ k, k ≠ "metadata" → k ≠ "type" → lookup k D = ((lookup k fields).or (lookup k extra)).bind backVal := by
  have hlk := leafDict_lookup fields extra md kind
  refine ⟨hB.nodup, hB.type (by rw [hlk, hnt]; rfl), fun hmd => ?_, fun k h1 h2 => ?_⟩
  · subst hmd; exact hB.no_meta (leafDict_meta hnm fun kv h => (hx kv h).1)
  · have hk := hlk k
    rw [if_neg h1, if_neg h2] at hk
    rw [hB.plain h1 fun v hv => ?_, hk]
    rw [hk] at hv
    cases hf : lookup k fields with
    | some v' => rw [hf] at hv; cases hv; exact hnd k v hf
    | none => rw [hf] at hv; exact (hx (k, v) (mem_of_lookup _ _ _ hv)).2

/-! The three shapes of leaf dictionary (generic; Input / Output, whose `shape` `from_dict` turns into the type dictionary;
Flatten, whose bare `input_type` it re-wraps).  `D` is what a reader returns for the node's dictionary; `kw'` any keyword
dictionary holding the transported field values.  `from_dict` rewrites `D` with `insert` / `erase` and hands it to the
constructor, which reads it through `lookup`: so `kw'` need only answer look-ups as the rewritten `D` does.  Empty
metadata leaves no member, so the constructor re-defaults it. -/

theorem generic_back_meta {fuel n : Nat} {kind : String} {fields D kw' : List (String × Val)} {md : Val}
    (hw : kind ∈ Generated.whitelist)
    (hk : kind ≠ "NIRGraph" ∧ kind ≠ "Input" ∧ kind ≠ "Output" ∧ kind ≠ "Flatten")
    (hnt : lookup "type" fields = none) (hnm : lookup "metadata" fields = none)
    (hnd : ∀ k v, lookup k fields = some v → ∀ d, v ≠ .dict d)
    (hB : Back n (fields ++ [("metadata", md), ("type", Val.str kind)]) D)
    (hkw : ∀ k, lookup k kw' = if k = "metadata" then lookup "metadata" D else (lookup k fields).bind backVal) :
    fromDictFuel (fuel + 1) (.dict D) = construct kind kw' := by
  obtain ⟨hn, ht, -, hv⟩ := leaf_view (extra := []) hnt hnm hnd (by simp) hB
  rw [fromDictFuel_generic fuel D kind ht hw ⟨hk.2.1, hk.2.2.1, hk.2.2.2, hk.1⟩]
  refine construct_congr kind _ _ fun k => ?_
  rw [lookup_erase_nodup _ _ _ hn, hkw]
  by_cases h1 : k = "type"
  · simp [h1, hnt]
  · by_cases h2 : k = "metadata"
    · simp [h2]
    · simp [h1, h2, hv k h2 h1, lookup_nil]

theorem generic_back {fuel n : Nat} {kind : String} {fields D kw' : List (String × Val)}
    (hw : kind ∈ Generated.whitelist)
    (hk : kind ≠ "NIRGraph" ∧ kind ≠ "Input" ∧ kind ≠ "Output" ∧ kind ≠ "Flatten")
    (hnt : lookup "type" fields = none) (hnm : lookup "metadata" fields = none)
    (hnd : ∀ k v, lookup k fields = some v → ∀ d, v ≠ .dict d)
    (hB : Back n (fields ++ [("metadata", Val.dict []), ("type", Val.str kind)]) D)
    (hkw : ∀ k, lookup k kw' = (lookup k fields).bind backVal) :
    fromDictFuel (fuel + 1) (.dict D) = construct kind kw' := by
  have hm := hB.no_meta (leafDict_meta hnm (extra := []) (by simp))
  refine generic_back_meta hw hk hnt hnm hnd hB fun k => ?_
  rw [hkw]; split
  · next h => rw [h, hnm, hm]; rfl
  · rfl

theorem io_back {fuel n : Nat} {kind kw port : String} (hio : IOClass kind kw port) {s s' : Val}
    {D : List (String × Val)} (hs : ∀ d, s ≠ .dict d) (hb : backVal s = some s')
    (hB : Back n [("metadata", Val.dict []), ("type", Val.str kind), ("shape", s)] D) :
    fromDictFuel (fuel + 1) (.dict D) = construct kind [(kw, typeDict port s')] := by
  obtain ⟨hn, ht, hm, hv⟩ := leaf_view (fields := []) (extra := [("shape", s)]) rfl rfl (fun k v h => by cases h)
    (by simpa using hs) hB
  have hne : kw ≠ "type" ∧ kw ≠ "shape" ∧ kw ≠ "metadata" := by
    rcases hio with ⟨_, rfl, _⟩ | ⟨_, rfl, _⟩ <;> decide
  have hn1 := insert_nodup kw (typeDict port s') D hn
  rw [fromDictFuel_io fuel D s' hio ht (by rw [hv _ (by decide) (by decide)]; simp [lookup_cons, lookup_nil, hb])]
  refine construct_congr kind _ _ fun k => ?_
  rw [lookup_erase_nodup _ _ _ (erase_nodup _ _ hn1), lookup_erase_nodup _ _ _ hn1, lookup_insert_eq, lookup_cons,
    lookup_nil]
  by_cases h1 : k = "type"
  · simp [h1, hne.1.symm]
  · by_cases h2 : k = "shape"
    · simp [h2, hne.2.1.symm]
    · by_cases h3 : k = kw
      · simp [h3, hne.1, hne.2.1]
      · by_cases h4 : k = "metadata"
        · simp [h4, hm rfl]
        · simp [h1, h2, h3, hv k h4 h1, lookup_cons, lookup_nil]

theorem flatten_back {fuel n : Nat} {fields D kw' : List (String × Val)} {s s' : Val}
    (hnt : lookup "type" fields = none) (hnm : lookup "metadata" fields = none)
    (hnit : lookup "input_type" fields = none)
    (hnd : ∀ k v, lookup k fields = some v → ∀ d, v ≠ .dict d)
    (hs : ∀ d, s ≠ .dict d) (hb : backVal s = some s')
    (hB : Back n (fields ++ [("metadata", Val.dict []), ("type", Val.str "Flatten"), ("input_type", s)]) D)
    (hkw : ∀ k, lookup k kw' = if k = "input_type" then some (typeDict "input" s') else (lookup k fields).bind backVal) :
    fromDictFuel (fuel + 1) (.dict D) = construct "Flatten" kw' := by
  obtain ⟨hn, ht, hm, hv⟩ := leaf_view (extra := [("input_type", s)]) hnt hnm hnd (by simpa using hs) hB
  rw [fromDictFuel_flatten fuel D ht]
  refine construct_congr "Flatten" _ _ fun k => ?_
  rw [lookup_erase_nodup _ _ _ (insert_nodup _ _ D hn), lookup_insert_eq, hkw]
  by_cases h1 : k = "type"
  · simp [h1, hnt]
  · by_cases h2 : k = "input_type"
    · simp [h2, hv, hnit, hb, lookup_cons]
    · by_cases h3 : k = "metadata"
      · simp [h3, hnm, hm rfl]
      · simp [h1, h2, hv k h3 h1, lookup_cons, lookup_nil]

theorem generic_child_back (fuel fuel' : Nat) (kind : String) (fields : List (String × Val))
    (hw : kind ∈ Generated.whitelist)
    (hk : kind ≠ "NIRGraph" ∧ kind ≠ "Input" ∧ kind ≠ "Output" ∧ kind ≠ "Flatten")
    (hnt : lookup "type" fields = none) (hnm : lookup "metadata" fields = none)
    (hnd : ∀ k v, lookup k fields = some v → ∀ d, v ≠ .dict d)
    (kw' : List (String × Val)) (hkw : ∀ k, lookup k kw' = (lookup k fields).bind backVal)
    (items : List (String × H5))
    (hnode : writeRecursiveFuel fuel' (fields ++ [("metadata", Val.dict []), ("type", Val.str kind)]) [] = .ok items) :
    fromDictFuel (fuel + 1) (.dict (hdf2dict.hdf2dictItems items)) = construct kind kw' :=
  generic_back hw hk hnt hnm hnd (back_of_write hnode) hkw

theorem io_child_back (fuel fuel' : Nat) (kind kw port : String)
    (hkind : (kind = "Input" ∧ kw = "input_type" ∧ port = "input") ∨ (kind = "Output" ∧ kw = "output_type" ∧ port = "output"))
    (s s' : Val) (hs : ∀ d, s ≠ .dict d) (hb : backVal s = some s') (items : List (String × H5))
    (hnode : writeRecursiveFuel fuel' [("metadata", Val.dict []), ("type", Val.str kind), ("shape", s)] [] = .ok items) :
    fromDictFuel (fuel + 1) (.dict (hdf2dict.hdf2dictItems items)) = construct kind [(kw, typeDict port s')] :=
  io_back hkind hs hb (back_of_write hnode)

theorem flatten_child_back (fuel fuel' : Nat) (fields : List (String × Val))
    (hnt : lookup "type" fields = none) (hnm : lookup "metadata" fields = none)
    (hnit : lookup "input_type" fields = none)
    (hnd : ∀ k v, lookup k fields = some v → ∀ d, v ≠ .dict d)
    (s s' : Val) (hs : ∀ d, s ≠ .dict d) (hb : backVal s = some s')
    (kw' : List (String × Val))
    (hkw : ∀ k, lookup k kw' = if k = "input_type" then some (typeDict "input" s') else (lookup k fields).bind backVal)
    (items : List (String × H5))
    (hnode : writeRecursiveFuel fuel' (fields ++ [("metadata", Val.dict []), ("type", Val.str "Flatten"), ("input_type", s)]) []
      = .ok items) :
    fromDictFuel (fuel + 1) (.dict (hdf2dict.hdf2dictItems items)) = construct "Flatten" kw' :=
  flatten_back hnt hnm hnit hnd hs hb (back_of_write hnode) hkw

end NirVerif.Lemmas
