import NirVerif.Lemmas.FromDict
import NirVerif.Lemmas.Idempotent
/-
  Exactness of the dictionary round trip, in a form that composes under graphs: whatever fuel
  (nesting bound) the surrounding graph supplies.
-/
namespace NirVerif.Lemmas
open NirVerif NirVerif.Py NirVerif.Model

/-- `from_dict(to_dict(n))` is `n`, at any fuel -/
def DictExact (n : Node) : Prop := ∃ d, toDict n = .ok d ∧ ∀ fuel, fromDictFuel (fuel + 1) d = .ok n

/-- `from_dict(to_dict(n))` is `n` whenever the recursion of `dict2NIRNode` is given at least the nesting depth of the
dictionary -/
def DictExactN (n : Node) : Prop :=
  ∃ d, toDict n = .ok d ∧ ∀ fuel, Val.depth d ≤ fuel → fromDictFuel (fuel + 1) d = .ok n

/-- fuel being immaterial (`fromDictFuel_eq_fromDict`), `DictExactN` is the round trip through `nir.dict2NIRNode` itself -/
theorem dictExactN_iff (n : Node) : DictExactN n ↔ (toDict n).bind fromDict = .ok n := by
  constructor
  · rintro ⟨d, hd, hf⟩
    rw [hd]; exact hf _ (Nat.le_refl _)
  · intro h
    obtain ⟨d, hd, h⟩ := bind_ok h
    exact ⟨d, hd, fun fuel hfuel => (fromDictFuel_eq_fromDict (Nat.lt_succ_of_le hfuel)).trans h⟩

theorem DictExact.roundtrip {n : Node} (h : DictExact n) : (toDict n).bind fromDict = .ok n := by
  obtain ⟨d, hd, hf⟩ := h
  rw [hd]; exact hf _

theorem fromDict_toDict_generic (kind : String) (fields : List (String × Val)) (md : Val)
    (hw : kind ∈ Generated.whitelist)
    (hk : kind ≠ "NIRGraph" ∧ kind ≠ "Input" ∧ kind ≠ "Output" ∧ kind ≠ "Flatten")
    (hnt : lookup "type" fields = none) (fuel : Nat) :
    fromDictFuel (fuel + 1) (.dict (fields ++ [("metadata", md), ("type", .str kind)])) =
      construct kind (fields ++ [("metadata", md)]) := by
  have ht : lookup "type" (fields ++ [("metadata", md), ("type", .str kind)]) = some (.str kind) := by
    rw [lookup_append, hnt]; rfl
  rw [fromDictFuel_generic fuel _ kind ht hw ⟨hk.2.1, hk.2.2.1, hk.2.2.2, hk.1⟩, erase_append_of_lookup_none _ _ _ hnt]
  rfl

theorem SelfBuilt.dictExact {n : Node} (h : SelfBuilt n) : DictExact n := by
  obtain ⟨⟨hw, hg⟩, ⟨hc, he⟩, ⟨hnt, _⟩, hidem⟩ := h
  cases n with
  | mk k f i o m c e =>
    simp only [Node.children, Node.edges] at hc he
    subst hc he
    exact ⟨_, toDict_generic k f i o m hg, fun fuel => (fromDict_toDict_generic k f m hw hg hnt fuel).trans hidem⟩

theorem dictExact_simple (kind : String) (kw : List (String × Val)) (n : Node) (hk : kind ∈ simpleKinds)
    (h : construct kind kw = .ok n)
    (hnot : lookup "input_type" kw = none ∧ lookup "output_type" kw = none) : DictExact n :=
  (selfBuilt_simple hk h hnot).dictExact

theorem dictExact_conv2d (kw : List (String × Val)) (n : Node) (h : construct "Conv2d" kw = .ok n) : DictExact n :=
  (selfBuilt_conv2d h).dictExact

theorem dictExact_input (s md : Val) : DictExact (Node.mk "Input" [] (typeDict "input" s) (typeDict "output" s) md [] []) :=
  ⟨.dict [("metadata", md), ("type", .str "Input"), ("shape", s)], rfl, fun fuel => by
    rw [fromDictFuel_io fuel _ s (.inl ⟨rfl, rfl, rfl⟩) rfl rfl]; rfl⟩

theorem dictExact_output (s md : Val) : DictExact (Node.mk "Output" [] (typeDict "input" s) (typeDict "output" s) md [] []) :=
  ⟨.dict [("metadata", md), ("type", .str "Output"), ("shape", s)], rfl, fun fuel => by
    rw [fromDictFuel_io fuel _ s (.inr ⟨rfl, rfl, rfl⟩) rfl rfl]; rfl⟩

/-! ## Flatten: the dictionary stores the bare input shape under `input_type`; `from_dict` re-wraps it and the constructor
recomputes the output type from it -/

def flattenSpec : List (String × Option Val) := (lookup "Flatten" Generated.classFields).getD []

/-- a bound keyword list with the five keys of Flatten's field table is five pairs -/
theorem list_of_keys5 (f : List (String × Val)) (k1 k2 k3 k4 k5 : String)
    (h : f.map Prod.fst = [k1, k2, k3, k4, k5]) :
    ∃ a1 a2 a3 a4 a5, f = [(k1, a1), (k2, a2), (k3, a3), (k4, a4), (k5, a5)] := by
  match f, h with
  | [(_, a1), (_, a2), (_, a3), (_, a4), (_, a5)], h =>
    simp only [List.map_cons, List.map_nil, List.cons.injEq, and_true] at h
    obtain ⟨rfl, rfl, rfl, rfl, rfl⟩ := h
    exact ⟨a1, a2, a3, a4, a5, rfl⟩

/-- Flatten's `__post_init__` reads `input_type` (through `parse_shape_argument`), the two dimensions, the plain fields and
the metadata, never `output_type`: a list that agrees with `f` on these but holds the node's own input type gives the same
node -/
theorem postInit_flatten_rewrap {f g : List (String × Val)} {n : Node} {s : Val}
    (h : postInit "Flatten" f = .ok n) (hs : n.inputType = typeDict "input" s)
    (hit : lookup "input_type" g = some (typeDict "input" s))
    (hsd : lookup "start_dim" g = lookup "start_dim" f) (hed : lookup "end_dim" g = lookup "end_dim" f)
    (hpl : plainOf g = plainOf f) (hm : lookup "metadata" g = lookup "metadata" f) :
    postInit "Flatten" g = .ok n := by
  rw [postInit_flatten, flattenInit] at h ⊢
  obtain ⟨it, hp, h⟩ := bind_ok h
  obtain ⟨inner, hi, h⟩ := bind_ok h
  -- on `g` the parsed input type is `{"input": s}` and its entry `s`; on `f` they were the same, or the entry was `None`,
  -- and then the parsed type is not looked at again
  have e : (it = typeDict "input" s ∧ inner = s) ∨ (inner = .none ∧ s = .none) := by
    split at h
    · cases h; cases hs; exact .inr ⟨rfl, rfl⟩
    · simp only [bind, Except.bind, pure, Except.pure] at h
      repeat' split at h
      all_goals first
        | (cases h; cases (show it = typeDict "input" s from hs)
           exact .inl ⟨rfl, Except.ok.inj (hi.symm.trans (getItem_typeDict "input" s))⟩)
        | cases h
  have hg : parseShapeArgument ((lookup "input_type" g).getD .none) "input" = .ok (typeDict "input" s) := by rw [hit]; rfl
  rw [hg, ok_bind, getItem_typeDict, ok_bind]
  rcases e with ⟨rfl, rfl⟩ | ⟨rfl, rfl⟩ <;> simpa only [arg, hsd, hed, hpl, hm, leafNode] using h

theorem dictExact_flatten (kw : List (String × Val)) (n : Node) (h : construct "Flatten" kw = .ok n)
    (s : Val) (hs : n.inputType = typeDict "input" s) : DictExact n := by
  obtain ⟨spec, f, hspec, hb, hp⟩ := construct_ok h
  cases (show some flattenSpec = some spec from hspec)
  obtain ⟨a1, a2, a3, a4, a5, rfl⟩ := list_of_keys5 f _ _ _ _ _ ((bindKwargs_eq_ok (by decide)).mp hb).2.1
  obtain ⟨fields, ⟨it, ot⟩, rfl, hf⟩ := postInit_ok hp
  cases hf List.mem_cons_self
  cases (show it = typeDict "input" s from hs)
  -- the dictionary holds the same dimensions and metadata and the bare input shape; `from_dict` re-wraps that and
  -- passes no output type
  refine ⟨.dict [("start_dim", a2), ("end_dim", a3), ("metadata", a5), ("type", .str "Flatten"), ("input_type", s)], rfl,
    fun fuel => ?_⟩
  rw [fromDictFuel_flatten fuel _ rfl]
  exact postInit_flatten_rewrap
    (g := [("input_type", typeDict "input" s), ("start_dim", a2), ("end_dim", a3), ("output_type", .none), ("metadata", a5)])
    hp rfl rfl rfl rfl rfl rfl

theorem decodeEdges_edgesVal (edges : List Edge) : decodeEdges (edgesVal edges) = .ok edges :=
  mapM_map_ok (g := fun e : Edge => Val.tuple [.str e.1, .str e.2]) (fun _ => rfl) edges

theorem graph_roundtrip (children : List (String × Node)) (edges : List Edge) (md : Val)
    (hkeys : (children.map Prod.fst).Nodup) (h : ∀ kn ∈ children, (toDict kn.2).bind fromDict = .ok kn.2) :
    (toDict (mkGraph children edges md)).bind fromDict = .ok (mkGraph children edges md) := by
  obtain ⟨kids, hk, hm⟩ := mapVals_roundtrip h
  rw [mkGraph, toDict_graph, hk]
  simp only [Except.bind]
  rw [fromDict_graph _ kids (edgesVal edges) rfl rfl rfl, hm, decodeEdges_edgesVal]
  obtain ⟨bound, hb, hmd⟩ := graph_kwargs_bound [("nodes", Val.dict kids), ("edges", edgesVal edges), ("metadata", md),
    ("type", Val.str "NIRGraph")] (by simp) (fun k h1 h2 h3 h4 => by simp [lookup_cons, lookup_nil, h1, h2, h3, h4])
  simp only [Except.bind, hb, hmd, insertAll_nil children hkeys]
  rfl

theorem graph_dict_exact (children : List (String × Node)) (edges : List Edge) (md : Val)
    (hkeys : (children.map Prod.fst).Nodup) (h : ∀ kn ∈ children, DictExact kn.2) :
    (toDict (mkGraph children edges md)).bind fromDict = .ok (mkGraph children edges md) :=
  graph_roundtrip children edges md hkeys fun kn hkn => (h kn hkn).roundtrip

theorem graph_dict_exactN (children : List (String × Node)) (edges : List Edge) (md : Val)
    (hkeys : (children.map Prod.fst).Nodup) (h : ∀ kn ∈ children, DictExactN kn.2) :
    DictExactN (mkGraph children edges md) :=
  (dictExactN_iff _).mpr (graph_roundtrip children edges md hkeys fun kn hkn => (dictExactN_iff _).mp (h kn hkn))

/-- trees of graphs over exactly round-tripping leaves -/
inductive ExactTree : Node → Prop
  | leaf (n : Node) (h : DictExact n) : ExactTree n
  | graph (children : List (String × Node)) (edges : List Edge) (md : Val)
      (hkeys : (children.map Prod.fst).Nodup) (h : ∀ kn ∈ children, ExactTree kn.2) :
      ExactTree (mkGraph children edges md)

theorem nested_dict_exact {n : Node} (h : ExactTree n) : (toDict n).bind fromDict = .ok n := by
  induction h with
  | leaf n h => exact h.roundtrip
  | graph children edges md hkeys _ ih => exact graph_roundtrip children edges md hkeys ih

end NirVerif.Lemmas
