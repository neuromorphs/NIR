import NirVerif.Model.Node
import NirVerif.Lemmas.Node
import NirVerif.Lemmas.Dict
/-!
  Constructors: keyword binding against the field table, and `postInit`.

  `postInit` is one `match` over seventeen class names whose `if … then throw` statements the `do` notation
  unfolds into copies of the rest of the body.  Its equations are therefore stated once, class by class, in a
  compact form (`postInit_matvec` … `postInit_output`: the branches of `postInit_eq`); every later fact about one class starts
  from its equation, and only the facts about all classes at once (`postInit_ok`, `postInit_meta`) walk the
  whole definition.
-/
namespace NirVerif.Lemmas
open NirVerif NirVerif.Py NirVerif.Model

theorem bindOne_eq (kw : List (String × Val)) (p : String × Option Val) :
    bindOne kw p = match (lookup p.1 kw).or p.2 with | some v => .ok (p.1, v) | none => .error .typeError := by
  unfold bindOne; cases lookup p.1 kw <;> cases p.2 <;> rfl

theorem bindAll_cons_ok {kw : List (String × Val)} {p : String × Option Val} {rest : List (String × Option Val)}
    {f : List (String × Val)} :
    bindAll kw (p :: rest) = .ok f ↔
      ∃ v xs, (lookup p.1 kw).or p.2 = some v ∧ bindAll kw rest = .ok xs ∧ f = (p.1, v) :: xs := by
  rw [bindAll, bindOne_eq]
  cases (lookup p.1 kw).or p.2 <;> cases bindAll kw rest <;> simp [eq_comm]

theorem bindAll_eq_ok {kw : List (String × Val)} {spec : List (String × Option Val)} {f : List (String × Val)}
    (hn : (spec.map Prod.fst).Nodup) :
    bindAll kw spec = .ok f ↔
      f.map Prod.fst = spec.map Prod.fst ∧ ∀ p ∈ spec, lookup p.1 f = (lookup p.1 kw).or p.2 := by
  induction spec generalizing f with
  | nil => cases f <;> simp [bindAll]
  | cons p rest ih =>
    simp only [List.map_cons, List.nodup_cons] at hn
    have hne : ∀ q ∈ rest, q.1 ≠ p.1 := fun q hq e => hn.1 (e ▸ List.mem_map_of_mem hq)
    rw [bindAll_cons_ok]
    constructor
    · rintro ⟨v, xs, hv, hxs, rfl⟩
      obtain ⟨hk, hl⟩ := (ih hn.2).mp hxs
      refine ⟨by rw [List.map_cons, hk]; rfl, fun q hq => ?_⟩
      rcases List.mem_cons.mp hq with rfl | hq
      · rw [lookup_cons, if_pos rfl, hv]
      · rw [lookup_cons, if_neg (hne q hq), hl q hq]
    · rintro ⟨hk, hl⟩
      match f, hk with
      | (_, v) :: xs, hk =>
        simp only [List.map_cons, List.cons.injEq] at hk
        refine ⟨v, xs, ?_, (ih hn.2).mpr ⟨hk.2, fun q hq => ?_⟩, by rw [hk.1]⟩
        · rw [← hl p List.mem_cons_self, ← hk.1, lookup_cons, if_pos rfl]
        · rw [← hl q (List.mem_cons_of_mem _ hq), hk.1, lookup_cons, if_neg (hne q hq)]

theorem bindAll_eq_error {kw : List (String × Val)} {spec : List (String × Option Val)} {e : PyErr} :
    bindAll kw spec = .error e ↔ e = .typeError ∧ ∃ p ∈ spec, lookup p.1 kw = none ∧ p.2 = none := by
  induction spec with
  | nil => simp [bindAll]
  | cons p rest ih =>
    simp only [bindAll, bindOne_eq, List.mem_cons, exists_eq_or_imp, ← Option.or_eq_none_iff (o := lookup p.1 kw)]
    cases (lookup p.1 kw).or p.2 with
    | none => simp [eq_comm]
    | some v => simp only [reduceCtorEq, false_or, ← ih]; cases bindAll kw rest <;> simp

theorem extraKey_iff (spec : List (String × Option Val)) (kw : List (String × Val)) :
    kw.any (fun kv => !(hasKey kv.1 spec)) = true ↔ ∃ kv ∈ kw, kv.1 ∉ spec.map Prod.fst := by
  simp only [List.any_eq_true, hasKey, Bool.not_eq_true', Option.isSome_eq_false_iff, Option.isNone_iff_eq_none,
    lookup_eq_none_iff]

/-- `cls(**kw)` returns `f`.  That every field without a default is given is implicit: `f` has every key of `spec`, so
`(lookup p.1 kw).or p.2` is never `none`. -/
theorem bindKwargs_eq_ok {kw : List (String × Val)} {spec : List (String × Option Val)} {f : List (String × Val)}
    (hn : (spec.map Prod.fst).Nodup) :
    bindKwargs spec kw = .ok f ↔ (∀ kv ∈ kw, kv.1 ∈ spec.map Prod.fst) ∧
      f.map Prod.fst = spec.map Prod.fst ∧ ∀ p ∈ spec, lookup p.1 f = (lookup p.1 kw).or p.2 := by
  unfold bindKwargs
  split
  · rename_i h
    obtain ⟨kv, hkv, hc⟩ := (extraKey_iff spec kw).mp h
    exact ⟨nofun, fun h' => absurd (h'.1 kv hkv) hc⟩
  · rename_i h
    rw [bindAll_eq_ok hn, iff_and_self]
    exact fun _ kv hkv => Classical.not_not.mp fun hc => h ((extraKey_iff spec kw).mpr ⟨kv, hkv, hc⟩)

theorem bindKwargs_eq_error {kw : List (String × Val)} {spec : List (String × Option Val)} {e : PyErr} :
    bindKwargs spec kw = .error e ↔ e = .typeError ∧
      ((∃ kv ∈ kw, kv.1 ∉ spec.map Prod.fst) ∨ ∃ p ∈ spec, lookup p.1 kw = none ∧ p.2 = none) := by
  rw [bindKwargs, ← extraKey_iff]
  split
  · rename_i h; simp [h, eq_comm]
  · rename_i h; simp [h, bindAll_eq_error]

theorem bindAll_congr (kw1 kw2 : List (String × Val)) (spec : List (String × Option Val))
    (h : ∀ p ∈ spec, bindOne kw1 p = bindOne kw2 p) : bindAll kw1 spec = bindAll kw2 spec := by
  induction spec with
  | nil => rfl
  | cons p rest ih =>
    simp only [bindAll]
    rw [h p List.mem_cons_self, ih (fun q hq => h q (List.mem_cons_of_mem _ hq))]

theorem bindKwargs_congr (kw1 kw2 : List (String × Val)) (spec : List (String × Option Val))
    (hkeys : (∃ k, (lookup k kw1).isSome = true ∧ hasKey k spec = false) ↔
             (∃ k, (lookup k kw2).isSome = true ∧ hasKey k spec = false))
    (h : ∀ p ∈ spec, bindOne kw1 p = bindOne kw2 p) : bindKwargs spec kw1 = bindKwargs spec kw2 := by
  unfold bindKwargs
  have e : kw1.any (fun kv => !(hasKey kv.1 spec)) = kw2.any (fun kv => !(hasKey kv.1 spec)) := by
    rw [Bool.eq_iff_iff, any_key_iff_lookup kw1 (fun k => !(hasKey k spec)), any_key_iff_lookup kw2 (fun k => !(hasKey k spec))]
    simpa using hkeys
  rw [e, bindAll_congr kw1 kw2 spec h]

/-- `cls(**kwargs)` reads its keyword dictionary through `lookup` only: neither the order nor what lies behind a repeated
key matters -/
theorem bindKwargs_lookup_congr (spec : List (String × Option Val)) (kw1 kw2 : List (String × Val))
    (h : ∀ k, lookup k kw1 = lookup k kw2) : bindKwargs spec kw1 = bindKwargs spec kw2 :=
  bindKwargs_congr kw1 kw2 spec (by simp only [h]) (fun p _ => by simp only [bindOne, h])

theorem construct_eq {kind : String} {spec : List (String × Option Val)}
    (h : lookup kind Generated.classFields = some spec) (kw : List (String × Val)) :
    construct kind kw = bindKwargs spec kw >>= postInit kind := by
  simp only [construct, h]

theorem construct_ok {kind : String} {kw : List (String × Val)} {n : Node} (h : construct kind kw = .ok n) :
    ∃ spec f, lookup kind Generated.classFields = some spec ∧ bindKwargs spec kw = .ok f ∧ postInit kind f = .ok n := by
  cases hspec : lookup kind Generated.classFields with
  | none => simp only [construct, hspec] at h; cases h
  | some spec =>
    rw [construct_eq hspec] at h
    obtain ⟨f, hb, hp⟩ := bind_ok h
    exact ⟨spec, f, rfl, hb, hp⟩

theorem construct_congr (kind : String) (kw1 kw2 : List (String × Val)) (h : ∀ k, lookup k kw1 = lookup k kw2) :
    construct kind kw1 = construct kind kw2 := by
  unfold construct
  cases lookup kind Generated.classFields with
  | none => rfl
  | some spec => simp only [bindKwargs_lookup_congr spec kw1 kw2 h]

/-- "this field has the default `{}`", as a check that evaluation can run over the field table -/
def isEmptyDictDefault : Option (Option Val) → Bool
  | some (some (.dict [])) => true
  | _ => false

theorem isEmptyDictDefault_iff {x : Option (Option Val)} : isEmptyDictDefault x = true ↔ x = some (some (.dict [])) := by
  unfold isEmptyDictDefault; split <;> simp_all

def isPlainKey (k : String) : Bool := k != "input_type" && k != "output_type" && k != "metadata"

def plainOf (f : List (String × Val)) : List (String × Val) := f.filter fun kv => isPlainKey kv.1

/-- `self.<k>` -/
def arg (f : List (String × Val)) (k : String) : Except PyErr Val :=
  match lookup k f with | some v => pure v | none => throw .attributeError

/-- what a successful `__post_init__` leaves: `metadata` goes to its own slot and is looked at nowhere else -/
def leafNode (kind : String) (f fields : List (String × Val)) (io : Val × Val) : Node :=
  Node.mk kind fields io.1 io.2 ((lookup "metadata" f).getD (.dict [])) [] []

theorem arg_eq_ok {f : List (String × Val)} {k : String} {v : Val} : arg f k = .ok v ↔ lookup k f = some v := by
  unfold arg; split <;> simp_all [pure, Except.pure, throw, throwThe, MonadExceptOf.throw]

theorem mapM_arg {f : List (String × Val)} :
    ∀ {ks : List String} {vs : List Val}, ks.map (lookup · f) = vs.map some → ks.mapM (arg f) = .ok vs
  | [], [], _ => rfl
  | k :: ks, v :: vs, h => by
    simp only [List.map_cons, List.cons.injEq] at h
    rw [List.mapM_cons, arg_eq_ok.mpr h.1, mapM_arg h.2]; rfl
  | [], _ :: _, h | _ :: _, [], h => by simp at h

/-- parameters that all have shape `sh`, in the form `postInit_neuron_of` asks for -/
theorem exists_args_of_shape {f : List (String × Val)} {sh : List Nat} :
    ∀ (ks : List String), (∀ k ∈ ks, ∃ v, lookup k f = some v ∧ getShape v = .ok sh) →
      ∃ vs : List Val, ks.map (lookup · f) = vs.map some ∧ vs.mapM getShape = .ok (ks.map fun _ => sh)
  | [], _ => ⟨[], rfl, rfl⟩
  | k :: ks, h => by
    obtain ⟨v, hv, hs⟩ := h k List.mem_cons_self
    obtain ⟨vs, h1, h2⟩ := exists_args_of_shape ks fun q hq => h q (List.mem_cons_of_mem _ hq)
    exact ⟨v :: vs, by rw [List.map_cons, hv, h1]; rfl, by rw [List.mapM_cons, hs, h2]; rfl⟩

/-- Affine, Linear -/
def matvecInit (kind : String) (f : List (String × Val)) : Except PyErr Node := do
  let sh ← getShape (← arg f "weight")
  if sh.length < 2 then throw .assertionError else
  pure (leafNode kind f (plainOf f)
    (typeDict "input" (shapeVal (sh.take (sh.length - 2) ++ [sh.getD (sh.length - 1) 0])),
     typeDict "output" (shapeVal (sh.take (sh.length - 2) ++ [sh.getD (sh.length - 2) 0]))))

/-- Scale, Threshold, Delay, I: the types are the shape of the one parameter `p` -/
def elementwiseInit (kind : String) (f : List (String × Val)) (p : String) : Except PyErr Node := do
  pure (leafNode kind f (plainOf f) (elementwiseTypes (← getShape (← arg f p))))

/-- IF, LI, LIF: the parameters whose shapes `__post_init__` asserts equal, in the order of the assertion -/
def neuronParams : List (String × List String) :=
  [("IF", ["r", "v_threshold"]), ("LI", ["tau", "r", "v_leak"]), ("LIF", ["tau", "r", "v_leak", "v_threshold"])]

/-- IF, LI, LIF: the parameters `ps` must have one common shape, which is the type -/
def neuronInit (kind : String) (f : List (String × Val)) (ps : List String) : Except PyErr Node := do
  pure (leafNode kind f (plainOf f) (elementwiseTypes (← assertSameShape (← ps.mapM (arg f)))))

def cubaInit (f : List (String × Val)) : Except PyErr Node := do
  let sh ← assertSameShape (← ["tau_syn", "tau_mem", "r", "v_leak", "v_threshold"].mapM (arg f))
  let w ← materialiseWIn (← arg f "v_threshold") (← arg f "w_in")
  if (← getShape w) != sh then throw .assertionError else
  pure (leafNode "CubaLIF" f (Py.insert "w_in" w (plainOf f)) (elementwiseTypes sh))

/-- SumPool2d, AvgPool2d -/
def poolInit (kind : String) (f : List (String × Val)) : Except PyErr Node :=
  pure (leafNode kind f (plainOf f) (typeDict "input" .none, typeDict "output" .none))

def conv1dInit (f : List (String × Val)) : Except PyErr Node := do
  let padding ← arg f "padding"
  convPaddingCheck padding
  let inputShape ← arg f "input_shape"
  match inputShape with
  | .none => pure (leafNode "Conv1d" f (plainOf f) (typeDict "input" .none, typeDict "output" .none))
  | _ =>
    let wsh ← getShape (← arg f "weight")
    if wsh.length < 2 then throw .indexError else
    if isU64Scalar inputShape then throw unmodelled else
    let n ← match Val.asInt? inputShape with | some n => pure n | none => throw unmodelled
    if wsh.length < 3 then throw .indexError else
    let out ← calculateConvOutput inputShape padding (← arg f "dilation") (.int (wsh.getD 2 0)) (← arg f "stride")
    pure (leafNode "Conv1d" f (plainOf f) (typeDict "input" (shapeArray [wsh.getD 1 0, n]),
      typeDict "output" (shapeArray (Int.ofNat (wsh.getD 0 0) :: out))))

/-- the fields a Conv2d node stores: padding, stride and dilation in their paired forms -/
def conv2dFields (f : List (String × Val)) (padding stride dilation : Val) : List (String × Val) :=
  Py.insert "dilation" dilation (Py.insert "stride" stride (Py.insert "padding" padding (plainOf f)))

def conv2dInit (f : List (String × Val)) : Except PyErr Node := do
  let padding ← arg f "padding"
  convPaddingCheck padding
  let padding := pairInt padding
  let stride := pairInt (← arg f "stride")
  let dilation := pairInt (← arg f "dilation")
  let fields := conv2dFields f padding stride dilation
  let inputShape ← arg f "input_shape"
  match inputShape with
  | .none => pure (leafNode "Conv2d" f fields (typeDict "input" .none, typeDict "output" .none))
  | _ =>
    let wsh ← getShape (← arg f "weight")
    if wsh.length < 2 then throw .indexError else
    let spatial ← match Val.asInt? inputShape with
      | some _ => throw .typeError
      | none => shapeInts inputShape
    if hasU64Entry inputShape then throw unmodelled else
    if wsh.length < 3 then throw .indexError else
    let out ← calculateConvOutput inputShape padding dilation
      (.tuple ((wsh.drop 2).map fun k => .int (Int.ofNat k))) stride
    pure (leafNode "Conv2d" f fields (typeDict "input" (shapeArray (Int.ofNat (wsh.getD 1 0) :: spatial)),
      typeDict "output" (shapeArray (Int.ofNat (wsh.getD 0 0) :: out))))

def flattenInit (f : List (String × Val)) : Except PyErr Node := do
  let it ← parseShapeArgument ((lookup "input_type" f).getD .none) "input"
  let inner ← getItem it "input"
  match inner with
  | .none => pure (leafNode "Flatten" f (plainOf f) (typeDict "input" .none, typeDict "output" .none))
  | _ =>
    let shp ← shapeInts inner
    let s ← match Val.asInt? (← arg f "start_dim") with | some s => pure s | none => throw unmodelled
    let e ← match Val.asInt? (← arg f "end_dim") with | some s => pure s | none => throw unmodelled
    let out := calcFlattenOutput shp s e
    if Py.prod shp != Py.prod out then throw .valueError else
    pure (leafNode "Flatten" f (plainOf f) (it, typeDict "output" (flattenArray inner out)))

def inputInit (f : List (String × Val)) : Except PyErr Node := do
  let it ← parseShapeArgument (← arg f "input_type") "input"
  pure (leafNode "Input" f [] (it, typeDict "output" (← getItem it "input")))

def outputInit (f : List (String × Val)) : Except PyErr Node := do
  let ot ← parseShapeArgument (← arg f "output_type") "output"
  pure (leafNode "Output" f [] (typeDict "input" (← getItem ot "output"), ot))

/-- `postInit` in compact form: the same dispatch, the bodies above -/
def postInitC (kind : String) (f : List (String × Val)) : Except PyErr Node :=
  match kind with
  | "Affine" | "Linear" => matvecInit kind f
  | "Scale" => elementwiseInit kind f "scale"
  | "Threshold" => elementwiseInit kind f "threshold"
  | "Delay" => elementwiseInit kind f "delay"
  | "I" => elementwiseInit kind f "r"
  | "IF" => neuronInit kind f ["r", "v_threshold"]
  | "LI" => neuronInit kind f ["tau", "r", "v_leak"]
  | "LIF" => neuronInit kind f ["tau", "r", "v_leak", "v_threshold"]
  | "CubaLIF" => cubaInit f
  | "SumPool2d" | "AvgPool2d" => poolInit kind f
  | "Conv1d" => conv1dInit f
  | "Conv2d" => conv2dInit f
  | "Flatten" => flattenInit f
  | "Input" => inputInit f
  | "Output" => outputInit f
  | _ => throw unmodelled

theorem postInit_eq (kind : String) (f : List (String × Val)) : postInit kind f = postInitC kind f := by
  unfold postInit postInitC
  split <;> first
    | rfl
    | (simp only [neuronInit, cubaInit, arg, List.mapM_cons, List.mapM_nil, bind_assoc, pure_bind] <;> rfl)

theorem postInit_matvec {kind : String} (hk : kind = "Affine" ∨ kind = "Linear") (f : List (String × Val)) :
    postInit kind f = matvecInit kind f := by
  rcases hk with rfl | rfl <;> rfl

theorem postInit_elementwise {kind p : String}
    (hk : (kind, p) ∈ [("Scale", "scale"), ("Threshold", "threshold"), ("Delay", "delay"), ("I", "r")])
    (f : List (String × Val)) : postInit kind f = elementwiseInit kind f p := by
  simp only [List.mem_cons, Prod.mk.injEq, List.mem_nil_iff, or_false] at hk
  rcases hk with ⟨rfl, rfl⟩ | ⟨rfl, rfl⟩ | ⟨rfl, rfl⟩ | ⟨rfl, rfl⟩ <;> rfl

theorem postInit_neuron {kind : String} {ps : List String} (hk : (kind, ps) ∈ neuronParams)
    (f : List (String × Val)) : postInit kind f = neuronInit kind f ps := by
  simp only [neuronParams, List.mem_cons, Prod.mk.injEq, List.mem_nil_iff, or_false] at hk
  rcases hk with ⟨rfl, rfl⟩ | ⟨rfl, rfl⟩ | ⟨rfl, rfl⟩ <;> exact postInit_eq _ f

theorem postInit_cuba (f : List (String × Val)) : postInit "CubaLIF" f = cubaInit f := postInit_eq _ f

theorem postInit_pool {kind : String} (hk : kind = "SumPool2d" ∨ kind = "AvgPool2d") (f : List (String × Val)) :
    postInit kind f = poolInit kind f := by
  rcases hk with rfl | rfl <;> rfl

theorem postInit_conv1d (f : List (String × Val)) : postInit "Conv1d" f = conv1dInit f := postInit_eq _ f

theorem postInit_conv2d (f : List (String × Val)) : postInit "Conv2d" f = conv2dInit f := postInit_eq _ f

theorem postInit_flatten (f : List (String × Val)) : postInit "Flatten" f = flattenInit f := postInit_eq _ f

theorem postInit_input (f : List (String × Val)) : postInit "Input" f = inputInit f := postInit_eq _ f

theorem postInit_output (f : List (String × Val)) : postInit "Output" f = outputInit f := postInit_eq _ f

theorem postInit_matvec_of {kind : String} (hk : kind = "Affine" ∨ kind = "Linear") {f : List (String × Val)} {w : Val}
    {sh : List Nat} (hw : lookup "weight" f = some w) (hs : getShape w = .ok sh) :
    postInit kind f =
      if 2 ≤ sh.length then .ok (leafNode kind f (plainOf f)
        (typeDict "input" (shapeVal (sh.take (sh.length - 2) ++ [sh.getD (sh.length - 1) 0])),
         typeDict "output" (shapeVal (sh.take (sh.length - 2) ++ [sh.getD (sh.length - 2) 0]))))
      else .error .assertionError := by
  rw [postInit_matvec hk, matvecInit, arg_eq_ok.mpr hw, ok_bind, hs, ok_bind]
  by_cases h : sh.length < 2
  · rw [if_pos h, if_neg (by omega)]; rfl
  · rw [if_neg h, if_pos (by omega)]; rfl

theorem assertSameShape_eq {vs : List Val} {s : List Nat} {ss : List (List Nat)} (hs : vs.mapM getShape = .ok (s :: ss)) :
    assertSameShape vs = if ∀ t ∈ ss, t = s then .ok s else .error .assertionError := by
  simp only [assertSameShape, hs, ok_bind, List.all_eq_true, beq_iff_eq]
  rfl

theorem postInit_neuron_of {kind : String} {ps : List String} (hk : (kind, ps) ∈ neuronParams)
    {f : List (String × Val)} {vs : List Val} {s : List Nat} {ss : List (List Nat)}
    (hv : ps.map (lookup · f) = vs.map some) (hs : vs.mapM getShape = .ok (s :: ss)) :
    postInit kind f =
      if ∀ t ∈ ss, t = s then .ok (leafNode kind f (plainOf f) (elementwiseTypes s)) else .error .assertionError := by
  rw [postInit_neuron hk, neuronInit, mapM_arg hv, ok_bind, assertSameShape_eq hs]
  split <;> rfl

theorem construct_input (t : Val) : construct "Input" [("input_type", t)] = (do
    let it ← parseShapeArgument t "input"
    pure (Node.mk "Input" [] it (typeDict "output" (← getItem it "input")) (.dict []) [] [])) := rfl

theorem construct_input_md (t md : Val) : construct "Input" [("input_type", t), ("metadata", md)] = (do
    let it ← parseShapeArgument t "input"
    pure (Node.mk "Input" [] it (typeDict "output" (← getItem it "input")) md [] [])) := rfl

theorem construct_output (t : Val) : construct "Output" [("output_type", t)] = (do
    let ot ← parseShapeArgument t "output"
    pure (Node.mk "Output" [] (typeDict "input" (← getItem ot "output")) ot (.dict []) [] [])) := rfl

theorem construct_output_md (t md : Val) : construct "Output" [("output_type", t), ("metadata", md)] = (do
    let ot ← parseShapeArgument t "output"
    pure (Node.mk "Output" [] (typeDict "input" (← getItem ot "output")) ot md [] [])) := rfl

/-- kinds whose constructor stores its parameters unchanged -/
def simpleKinds : List String :=
  ["Affine", "Linear", "Scale", "Threshold", "Delay", "I", "IF", "LI", "LIF", "SumPool2d", "AvgPool2d", "Conv1d"]

theorem postInit_ok {kind : String} {f : List (String × Val)} {n : Node} (h : postInit kind f = .ok n) :
    ∃ fields io, n = leafNode kind f fields io ∧ (kind ∈ "Flatten" :: simpleKinds → fields = plainOf f) := by
  rw [postInit_eq] at h
  simp only [postInitC, matvecInit, elementwiseInit, neuronInit, cubaInit, poolInit, conv1dInit, conv2dInit, flattenInit,
    inputInit, outputInit, bind, Except.bind, pure, Except.pure, throw, throwThe, MonadExceptOf.throw] at h
  -- every return site is a `leafNode kind f`, and in the listed classes it stores `plainOf f`
  repeat' split at h
  all_goals (try cases h)
  all_goals first
    | exact ⟨_, (_, _), rfl, fun _ => rfl⟩
    | exact ⟨_, (_, _), rfl, fun hk => absurd hk (by decide)⟩

theorem postInit_kind (kind : String) (f : List (String × Val)) (n : Node) (h : postInit kind f = .ok n) :
    n.kind = kind := by
  obtain ⟨_, _, rfl, _⟩ := postInit_ok h
  rfl

theorem construct_kind (kind : String) (kw : List (String × Val)) (n : Node) (h : construct kind kw = .ok n) :
    n.kind = kind ∧ n.children = [] ∧ n.edges = [] := by
  obtain ⟨_, _, _, _, hp⟩ := construct_ok h
  obtain ⟨_, _, rfl, _⟩ := postInit_ok hp
  exact ⟨rfl, rfl, rfl⟩

def Node.setMeta (n : Node) (m : Val) : Node :=
  match n with | Node.mk k f i o _ c e => Node.mk k f i o m c e

theorem plainOf_insert_meta (m : Val) (f : List (String × Val)) : plainOf (Py.insert "metadata" m f) = plainOf f :=
  filter_insert isPlainKey "metadata" m f

theorem arg_insert_meta (m : Val) (f : List (String × Val)) (k : String) :
    arg (Py.insert "metadata" m f) k = if k = "metadata" then pure m else arg f k := by
  by_cases hk : k = "metadata"
  · subst hk; simp [arg, lookup_insert_self]
  · simp [hk, arg, lookup_insert_ne _ _ _ _ hk]

theorem leafNode_insert_meta (kind : String) (m : Val) (f fields : List (String × Val)) (io : Val × Val) :
    leafNode kind (Py.insert "metadata" m f) fields io = Node.setMeta (leafNode kind f fields io) m := by
  simp only [leafNode, lookup_insert_self, Option.getD_some, Node.setMeta]

theorem postInit_meta (kind : String) (f : List (String × Val)) (m : Val) :
    postInit kind (Py.insert "metadata" m f) = (postInit kind f).map (fun n => Node.setMeta n m) := by
  rw [postInit_eq, postInit_eq]
  unfold postInitC
  split
  -- every other argument is read as before, and the metadata reaches the result only through `leafNode`
  all_goals try simp only [matvecInit, elementwiseInit, neuronInit, cubaInit, poolInit, conv1dInit, conv2dInit,
    flattenInit, inputInit, outputInit, List.mapM_cons, List.mapM_nil, conv2dFields,
    arg_insert_meta, String.reduceEq, ↓reduceIte, plainOf_insert_meta, leafNode_insert_meta,
    lookup_insert_ne _ _ _ _ (by decide : "input_type" ≠ "metadata")]
  -- walk the body: a bind is congruent in its continuation, a branch splits, a return site is `setMeta` of the same leaf
  all_goals repeat (first | rfl | refine bind_map_congr _ _ _ _ fun _ => ?_ | split)

end NirVerif.Lemmas
