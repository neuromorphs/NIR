import NirVerif.Model.Graph
import NirVerif.Generated.Whitelist
import Std.Data.String.ToNat
import NirVerif.Lemmas.Dict
import NirVerif.Lemmas.Construct
/-! `from_list`: the names it gives (`uniqueName`, `assignNames`: the lower-cased class name and a counter per name —
distinct, and never a reserved `input` / `output` unless a node of that class is in the list), and the function itself
as the named nodes with an Input put in front and an Output appended where there is none (`fromList_path`). -/
namespace NirVerif.Lemmas.FromList
open NirVerif NirVerif.Py NirVerif.Model NirVerif.Lemmas

/-- the lower-cased names of the eighteen whitelisted classes (`baseNames_eq`): every name `from_list` gives starts
with one of them -/
def baseNames : List String :=
  ["conv1d", "conv2d", "delay", "flatten", "input", "nirgraph", "output", "affine", "linear", "scale",
   "cubalif", "i", "if", "li", "lif", "avgpool2d", "sumpool2d", "threshold"]

theorem baseNames_eq : baseNames = NirVerif.Generated.whitelist.map String.toLower := by decide +kernel

theorem no_underscore : ∀ b ∈ baseNames, '_' ∉ b.toList := by decide +kernel

theorem split_at_sep {α} [DecidableEq α] {c : α} {l1 r1 l2 r2 : List α} (h1 : c ∉ l1) (h2 : c ∉ l2)
    (h : l1 ++ c :: r1 = l2 ++ c :: r2) : l1 = l2 ∧ r1 = r2 := by
  -- either side is cut at its first `c`
  have cut : ∀ l r : List α, c ∉ l → (l ++ c :: r).takeWhile (· != c) = l := fun l r hl => by
    rw [List.takeWhile_append_of_pos fun a ha => bne_iff_ne.mpr fun (e : a = c) => hl (e ▸ ha),
      List.takeWhile_cons_of_neg (by simp), List.append_nil]
  have e : l1 = l2 := by rw [← cut l1 r1 h1, h, cut l2 r2 h2]
  subst e
  exact ⟨rfl, (List.cons.inj (List.append_cancel_left h)).2⟩

theorem toList_uniqueName (b : String) (k : Nat) :
    (uniqueName b k).toList = if k > 0 then b.toList ++ '_' :: Nat.toDigits 10 k else b.toList := by
  unfold uniqueName
  split
  · simp [Nat.toList_repr]
  · rfl

theorem uniqueName_injective {b1 b2 : String} {k1 k2 : Nat} (h1 : b1 ∈ baseNames) (h2 : b2 ∈ baseNames)
    (h : uniqueName b1 k1 = uniqueName b2 k2) : b1 = b2 ∧ k1 = k2 := by
  have hl := congrArg String.toList h
  rw [toList_uniqueName, toList_uniqueName] at hl
  have n1 := no_underscore b1 h1
  have n2 := no_underscore b2 h2
  by_cases c1 : k1 > 0 <;> by_cases c2 : k2 > 0 <;> simp only [c1, c2, if_true, if_false] at hl
  · obtain ⟨e1, e2⟩ := split_at_sep n1 n2 hl
    refine ⟨String.toList_injective e1, ?_⟩
    have : Nat.repr k1 = Nat.repr k2 := String.toList_injective (by rw [Nat.toList_repr, Nat.toList_repr, e2])
    exact Nat.repr_inj.mp this
  · exfalso; apply n2; rw [← hl]; simp
  · exfalso; apply n1; rw [hl]; simp
  · exact ⟨String.toList_injective hl, by omega⟩


theorem assignNames_snd (ns : List Node) (c : List (String × Nat)) :
    (assignNames ns c).map Prod.snd = ns := by
  induction ns generalizing c with
  | nil => rfl
  | cons n rest ih => simp [assignNames, ih]

theorem assignNames_form (ns : List Node) (c : List (String × Nat)) :
    ∀ p ∈ assignNames ns c, ∃ k, p.1 = uniqueName p.2.kind.toLower k ∧ (lookup p.2.kind.toLower c).getD 0 ≤ k ∧ p.2 ∈ ns := by
  induction ns generalizing c with
  | nil => intro p hp; cases hp
  | cons n rest ih =>
    intro p hp
    simp only [assignNames, List.mem_cons] at hp
    rcases hp with rfl | hp
    · exact ⟨_, rfl, Nat.le_refl _, List.mem_cons_self⟩
    · obtain ⟨k, h1, h2, h3⟩ := ih _ p hp
      refine ⟨k, h1, ?_, List.mem_cons_of_mem _ h3⟩
      by_cases hb : p.2.kind.toLower = n.kind.toLower
      · rw [hb] at h2 ⊢
        rw [lookup_insert_self, Option.getD_some] at h2
        omega
      · rw [lookup_insert_ne _ _ _ _ hb] at h2; exact h2

theorem whitelist_lower_mem {k : String} (h : k ∈ Generated.whitelist) : k.toLower ∈ baseNames := by
  rw [baseNames_eq]; exact List.mem_map.mpr ⟨k, h, rfl⟩

/-- a name whose index lies below its class's counter, or whose class does not occur, is not handed out -/
theorem not_assigned {ns : List Node} {c : List (String × Nat)} (hk : ∀ n ∈ ns, n.kind ∈ Generated.whitelist)
    {b : String} (hb : b ∈ baseNames) {k : Nat} (h : ∀ n ∈ ns, n.kind.toLower = b → k < (lookup b c).getD 0) :
    uniqueName b k ∉ (assignNames ns c).map Prod.fst := by
  intro hmem
  obtain ⟨p, hp, hpe⟩ := List.mem_map.mp hmem
  obtain ⟨k', h1, h2, h3⟩ := assignNames_form ns c p hp
  obtain ⟨e1, e2⟩ := uniqueName_injective (whitelist_lower_mem (hk p.2 h3)) hb (h1 ▸ hpe)
  have := h p.2 h3 e1
  rw [e1] at h2
  omega

theorem assignNames_nodup (ns : List Node) (c : List (String × Nat)) (hk : ∀ n ∈ ns, n.kind ∈ Generated.whitelist) :
    ((assignNames ns c).map Prod.fst).Nodup := by
  induction ns generalizing c with
  | nil => simp [assignNames]
  | cons n rest ih =>
    have hrest := fun m hm => hk m (List.mem_cons_of_mem n hm)
    simp only [assignNames, List.map_cons, List.nodup_cons]
    -- the counter of `n`'s class has moved past the index `n` got
    refine ⟨not_assigned hrest (whitelist_lower_mem (hk n List.mem_cons_self)) fun _ _ _ => ?_, ih _ hrest⟩
    rw [lookup_insert_self, Option.getD_some]
    omega

theorem kind_of_lower : ∀ k ∈ Generated.whitelist,
    (k.toLower = "input" → k = "Input") ∧ (k.toLower = "output" → k = "Output") := by decide +kernel

theorem reserved_not_assigned (ns : List Node) (hk : ∀ n ∈ ns, n.kind ∈ Generated.whitelist)
    (r : String) (hr : r ∈ baseNames) (hno : ∀ n ∈ ns, n.kind.toLower ≠ r) :
    r ∉ (assignNames ns []).map Prod.fst :=
  not_assigned (k := 0) hk hr fun n hn e => absurd e (hno n hn)

theorem input_not_assigned {ns : List Node} (hk : ∀ n ∈ ns, n.kind ∈ Generated.whitelist)
    (hno : ∀ n ∈ ns, n.kind ≠ "Input") : "input" ∉ (assignNames ns []).map Prod.fst :=
  reserved_not_assigned ns hk "input" (by decide) fun n hn hl => hno n hn ((kind_of_lower _ (hk n hn)).1 hl)

theorem output_not_assigned {ns : List Node} (hk : ∀ n ∈ ns, n.kind ∈ Generated.whitelist)
    (hno : ∀ n ∈ ns, n.kind ≠ "Output") : "output" ∉ (assignNames ns []).map Prod.fst :=
  reserved_not_assigned ns hk "output" (by decide) fun n hn hl => hno n hn ((kind_of_lower _ (hk n hn)).2 hl)

theorem names_scheme_aux (pre : List Node) (n : Node) (post : List Node) (c : List (String × Nat)) :
    ((assignNames (pre ++ n :: post) c).map Prod.fst)[pre.length]? =
      some (uniqueName n.kind.toLower ((lookup n.kind.toLower c).getD 0
        + pre.countP (fun m => m.kind.toLower == n.kind.toLower))) := by
  induction pre generalizing c with
  | nil => simp [assignNames]
  | cons m rest ih =>
    simp only [List.cons_append, assignNames, List.map_cons, List.length_cons, List.getElem?_cons_succ]
    rw [ih]
    by_cases hb : m.kind.toLower = n.kind.toLower
    · rw [hb, lookup_insert_self]
      simp only [List.countP_cons, hb, beq_self_eq_true, if_true, Option.getD_some]
      congr 2; omega
    · rw [lookup_insert_ne _ _ _ _ (Ne.symm hb)]
      have : (m.kind.toLower == n.kind.toLower) = false := by simp [hb]
      simp [this]

/-! ## `from_list` as the named nodes with an Input put in front and an Output appended where there is none -/

def autoInput (first : Node) : Except PyErr Nodes :=
  if first.isKind "Input" then pure [] else do
    pure [("input", ← construct "Input" [("input_type", first.inputType)])]

def autoOutput (last : Node) (d : Nodes) : Except PyErr Nodes :=
  if last.isKind "Output" then pure d else do
    pure (insert "output" (← construct "Output" [("output_type", last.outputType)]) d)

/- `do` copies the rest of `fromList` into both branches of each `if`; here each `if` is a step of its own -/
theorem fromList_cons (first : Node) (rest : List Node) :
    fromList (first :: rest) = (do
      let d0 ← autoInput first
      let d2 ← autoOutput ((first :: rest).getLast?.getD first) (insertAll d0 (assignNames (first :: rest) []))
      pure (mkGraph d2 ((d2.map Prod.fst).zip (d2.map Prod.fst).tail))) := by
  show (if first.isKind "Input" then _ else _) = _
  unfold autoInput autoOutput
  split <;> simp only [bind_assoc, pure_bind]
  · split <;> simp only [bind_assoc, pure_bind]
  · congr 1; funext inp; split <;> simp only [bind_assoc, pure_bind]

/-- what the two steps add when they succeed -/
def autoIn (first : Node) (iv : Val) : Nodes :=
  if first.isKind "Input" then [] else [("input", Node.mk "Input" [] first.inputType (typeDict "output" iv) (.dict []) [] [])]

def autoOut (last : Node) (ov : Val) : Nodes :=
  if last.isKind "Output" then [] else [("output", Node.mk "Output" [] (typeDict "input" ov) last.outputType (.dict []) [] [])]

theorem autoInput_ok {first : Node} {kvs : List (String × Val)} {v : Val}
    (ht : first.inputType = .dict kvs) (hv : lookup "input" kvs = some v) : autoInput first = .ok (autoIn first v) := by
  unfold autoInput autoIn
  split
  · rfl
  · rw [construct_input, ht]; simp only [parseShapeArgument, ok_bind, getItem, hv]; rfl

theorem autoOutput_ok {last : Node} {kvs : List (String × Val)} {v : Val}
    (ht : last.outputType = .dict kvs) (hv : lookup "output" kvs = some v) (d : Nodes)
    (hd : ((d ++ autoOut last v).map Prod.fst).Nodup) : autoOutput last d = .ok (d ++ autoOut last v) := by
  unfold autoOutput autoOut at *
  split
  · rw [List.append_nil]; rfl
  · have hc : construct "Output" [("output_type", last.outputType)] =
        .ok (Node.mk "Output" [] (typeDict "input" v) last.outputType (.dict []) [] []) := by
      rw [construct_output, ht]; simp only [parseShapeArgument, ok_bind, getItem, hv]; rfl
    rw [if_neg ‹_›] at hd
    rw [hc, ok_bind, insert_of_not_mem _ _ d fun hm =>
      (List.nodup_append.mp (List.map_append ▸ hd)).2.2 _ hm _ (by simp) rfl]
    rfl

theorem fromList_path {first : Node} {rest : List Node} {ikvs okvs : List (String × Val)} {iv ov : Val}
    (hfi : first.inputType = .dict ikvs) (hfi' : lookup "input" ikvs = some iv)
    (hlo : ((first :: rest).getLast (by simp)).outputType = .dict okvs) (hlo' : lookup "output" okvs = some ov)
    (hn : ((autoIn first iv ++ assignNames (first :: rest) [] ++
      autoOut ((first :: rest).getLast (by simp)) ov).map Prod.fst).Nodup) :
    fromList (first :: rest) = .ok (
      let children := autoIn first iv ++ assignNames (first :: rest) [] ++ autoOut ((first :: rest).getLast (by simp)) ov
      mkGraph children ((children.map Prod.fst).zip (children.map Prod.fst).tail)) := by
  have hget : (first :: rest).getLast?.getD first = (first :: rest).getLast (by simp) := by
    rw [List.getLast?_eq_some_getLast (l := first :: rest) (by simp)]; rfl
  rw [fromList_cons, autoInput_ok hfi hfi', ok_bind,
    insertAll_append _ _ (List.nodup_append.mp (List.map_append ▸ hn)).1, hget, autoOutput_ok hlo hlo' _ hn, ok_bind]
  rfl

theorem mem_autoIn_keys {first : Node} {iv : Val} {k : String} :
    k ∈ (autoIn first iv).map Prod.fst ↔ ¬first.isKind "Input" ∧ k = "input" := by
  unfold autoIn; split <;> simp [*]

theorem mem_autoOut_keys {last : Node} {ov : Val} {k : String} :
    k ∈ (autoOut last ov).map Prod.fst ↔ ¬last.isKind "Output" ∧ k = "output" := by
  unfold autoOut; split <;> simp [*]

/-- the condition of `fromList_path` for any node table `l` in the middle: its keys are distinct, and the reserved name
is free at each end where a node is put in -/
theorem path_keys_nodup {first last : Node} {iv ov : Val} {l : Nodes} (hl : (l.map Prod.fst).Nodup)
    (hin : ¬first.isKind "Input" → "input" ∉ l.map Prod.fst) (hout : ¬last.isKind "Output" → "output" ∉ l.map Prod.fst) :
    ((autoIn first iv ++ l ++ autoOut last ov).map Prod.fst).Nodup := by
  simp only [List.map_append]
  refine List.nodup_append.mpr ⟨List.nodup_append.mpr ⟨?_, hl, fun a ha b hb e => ?_⟩, ?_, fun a ha b hb e => ?_⟩
  · unfold autoIn; split <;> simp
  · obtain ⟨hf, rfl⟩ := mem_autoIn_keys.mp ha
    exact hin hf (e ▸ hb)
  · unfold autoOut; split <;> simp
  · obtain ⟨ho, rfl⟩ := mem_autoOut_keys.mp hb
    rcases List.mem_append.mp ha with ha | ha
    · exact absurd ((mem_autoIn_keys.mp ha).2.symm.trans e) (by decide)
    · exact hout ho (e ▸ ha)

end NirVerif.Lemmas.FromList
