import NirVerif.Model.Graph
import NirVerif.Lemmas.Except
/-! Association lists as Python dictionaries: `lookup`, `insert`, `erase`, `insertAll` (`dict.update`) and the key list
`d.map Prod.fst`; at the end the one-entry type dictionary `typeDict`. -/
namespace NirVerif.Lemmas
open NirVerif NirVerif.Py NirVerif.Model

variable {α : Type}

theorem lookup_nil (k : String) : lookup k ([] : List (String × α)) = none := rfl

theorem lookup_cons (k k0 : String) (v0 : α) (d : List (String × α)) :
    lookup k ((k0, v0) :: d) = if k = k0 then some v0 else lookup k d := by
  by_cases h : k = k0
  · simp [lookup, h]
  · simp [lookup, h, Ne.symm h]

theorem lookup_append (k : String) (a b : List (String × α)) :
    lookup k (a ++ b) = (lookup k a).or (lookup k b) := by
  induction a with
  | nil => simp [lookup]
  | cons kv rest ih => obtain ⟨k0, v0⟩ := kv; by_cases h : k = k0 <;> simp [lookup_cons, h, ih]

theorem lookup_isSome_iff_mem (k : String) (d : List (String × α)) :
    (lookup k d).isSome = true ↔ k ∈ d.map Prod.fst := by
  induction d with
  | nil => simp [lookup]
  | cons kv rest ih =>
    obtain ⟨k0, v0⟩ := kv
    by_cases h : k = k0 <;> simp [lookup_cons, h, ih]

theorem lookup_eq_none_iff (k : String) (d : List (String × α)) : lookup k d = none ↔ k ∉ d.map Prod.fst := by
  rw [← lookup_isSome_iff_mem]; cases lookup k d <;> simp

theorem lookup_eq_none_of_not_mem (k : String) (d : List (String × α)) (h : k ∉ d.map Prod.fst) :
    lookup k d = none :=
  (lookup_eq_none_iff k d).mpr h

theorem mem_of_lookup (k : String) (v : α) (d : List (String × α)) (h : lookup k d = some v) : (k, v) ∈ d := by
  induction d with
  | nil => simp [lookup] at h
  | cons kv rest ih =>
    obtain ⟨k0, v0⟩ := kv
    rw [lookup_cons] at h
    split at h
    · simp_all
    · exact List.mem_cons_of_mem _ (ih h)

theorem forall_lookup {d : List (String × α)} {P : String → α → Prop} (h : ∀ kv ∈ d, P kv.1 kv.2) (k : String) (v : α)
    (hl : lookup k d = some v) : P k v := h (k, v) (mem_of_lookup k v d hl)

theorem lookup_of_mem_nodup (d : List (String × α)) (hnd : (d.map Prod.fst).Nodup) (k : String) (v : α)
    (h : (k, v) ∈ d) : lookup k d = some v := by
  induction d with
  | nil => cases h
  | cons kv rest ih =>
    obtain ⟨k0, v0⟩ := kv
    simp only [List.map_cons, List.nodup_cons] at hnd
    rcases List.mem_cons.mp h with h | h
    · cases h; simp [lookup_cons]
    · rw [lookup_cons, if_neg fun e : k = k0 => hnd.1 (e ▸ List.mem_map_of_mem (f := Prod.fst) h)]
      exact ih hnd.2 h

theorem any_key_iff_lookup (kw : List (String × α)) (p : String → Bool) :
    kw.any (fun kv => p kv.1) = true ↔ ∃ k, (lookup k kw).isSome = true ∧ p k = true := by
  simp only [List.any_eq_true, lookup_isSome_iff_mem, List.mem_map]
  exact ⟨fun ⟨kv, hm, hp⟩ => ⟨kv.1, ⟨kv, hm, rfl⟩, hp⟩, fun ⟨_, ⟨kv, hm, e⟩, hp⟩ => ⟨kv, hm, e ▸ hp⟩⟩

theorem lookup_perm {a b : List (String × α)} (h : a.Perm b) (ha : (a.map Prod.fst).Nodup) (k : String) :
    lookup k a = lookup k b := by
  cases hl : lookup k a with
  | none => exact (lookup_eq_none_of_not_mem k b fun hm =>
      (lookup_eq_none_iff k a).mp hl ((h.map Prod.fst).mem_iff.mpr hm)).symm
  | some v => exact (lookup_of_mem_nodup b ((h.map Prod.fst).nodup_iff.mp ha) k v (h.mem_iff.mp (mem_of_lookup k v a hl))).symm

theorem perm_of_lookup (a b : List (String × α)) (ha : (a.map Prod.fst).Nodup) (hb : (b.map Prod.fst).Nodup)
    (hl : ∀ k, lookup k a = lookup k b) : a.Perm b := by
  have nd : ∀ l : List (String × α), (l.map Prod.fst).Nodup → l.Nodup := fun l h =>
    (List.pairwise_map.mp h).imp fun hne e => hne (by rw [e])
  refine (List.perm_ext_iff_of_nodup (nd a ha) (nd b hb)).mpr fun ⟨k, v⟩ => ⟨fun hm => ?_, fun hm => ?_⟩
  · exact mem_of_lookup k v b (hl k ▸ lookup_of_mem_nodup a ha k v hm)
  · exact mem_of_lookup k v a (hl k ▸ lookup_of_mem_nodup b hb k v hm)

theorem lookup_filter_key (p : String → Bool) (k : String) (d : List (String × α)) :
    lookup k (d.filter fun kv => p kv.1) = if p k then lookup k d else none := by
  induction d with
  | nil => simp [lookup]
  | cons kv rest ih =>
    obtain ⟨k0, v0⟩ := kv
    by_cases hp : p k0 = true <;> by_cases h0 : k = k0 <;> simp_all [lookup_cons]

theorem lookup_insert_eq (k k' : String) (v : α) (d : List (String × α)) :
    lookup k (insert k' v d) = if k = k' then some v else lookup k d := by
  induction d with
  | nil => rw [Py.insert, lookup_cons]
  | cons kv rest ih =>
    obtain ⟨k0, v0⟩ := kv
    by_cases h : k0 = k'
    · subst h; by_cases hk : k = k0 <;> simp [Py.insert, lookup_cons, hk]
    · by_cases hk : k = k0 <;> simp [Py.insert, lookup_cons, h, hk, ih]

theorem lookup_insert_self (k : String) (v : α) (d : List (String × α)) : lookup k (insert k v d) = some v :=
  (lookup_insert_eq k k v d).trans (if_pos rfl)

theorem lookup_insert_ne (k k' : String) (v : α) (d : List (String × α)) (hne : k' ≠ k) :
    lookup k' (insert k v d) = lookup k' d :=
  (lookup_insert_eq k' k v d).trans (if_neg hne)

theorem insert_of_not_mem (k : String) (v : α) (d : List (String × α)) (h : k ∉ d.map Prod.fst) :
    insert k v d = d ++ [(k, v)] := by
  induction d with
  | nil => rfl
  | cons kv rest ih =>
    obtain ⟨k0, v0⟩ := kv
    simp only [List.map_cons, List.mem_cons, not_or] at h
    simp [Py.insert, Ne.symm h.1, ih h.2]

theorem insert_insert (k : String) (v v' : α) (d : List (String × α)) :
    insert k v' (insert k v d) = insert k v' d := by
  induction d with
  | nil => simp [Py.insert]
  | cons kv rest ih =>
    obtain ⟨k0, v0⟩ := kv
    by_cases h : k0 = k <;> simp [Py.insert, h, ih]

theorem insert_of_lookup (k : String) (v : α) (d : List (String × α)) (h : lookup k d = some v) : insert k v d = d := by
  induction d with
  | nil => simp [lookup] at h
  | cons kv rest ih =>
    obtain ⟨k0, v0⟩ := kv
    by_cases hk : k0 = k
    · simp_all [Py.insert, lookup]
    · simp only [lookup, hk, beq_iff_eq, if_false] at h
      simp [Py.insert, hk, ih h]

theorem map_fst_insert_of_lookup (k : String) (v v0 : α) (d : List (String × α)) (h : lookup k d = some v0) :
    (insert k v d).map Prod.fst = d.map Prod.fst := by
  induction d with
  | nil => simp [lookup] at h
  | cons kv rest ih =>
    obtain ⟨k0, x0⟩ := kv
    by_cases hk : k0 = k
    · simp [Py.insert, hk]
    · simp only [lookup, hk, beq_iff_eq, if_false] at h
      simp [Py.insert, hk, ih h]

theorem filter_insert (p : String → Bool) (k : String) (v : α) (d : List (String × α)) :
    (insert k v d).filter (fun kv => p kv.1) =
      if p k then insert k v (d.filter fun kv => p kv.1) else d.filter fun kv => p kv.1 := by
  induction d with
  | nil => cases hp : p k <;> simp [Py.insert, hp]
  | cons kv rest ih =>
    obtain ⟨k0, v0⟩ := kv
    by_cases h : k0 = k
    · subst h; cases hp : p k0 <;> simp [Py.insert, hp]
    · cases hp : p k <;> cases hp0 : p k0 <;> simp [Py.insert, h, hp, hp0, ih]

theorem lookup_erase_nodup (k k' : String) (d : List (String × α)) (hn : (d.map Prod.fst).Nodup) :
    lookup k (erase k' d) = if k = k' then none else lookup k d := by
  induction d with
  | nil => simp [erase, lookup]
  | cons kv rest ih =>
    obtain ⟨k0, v0⟩ := kv
    simp only [List.map_cons, List.nodup_cons] at hn
    by_cases h0 : k0 = k'
    · subst h0
      by_cases hk : k = k0
      · subst hk; simpa [erase] using lookup_eq_none_of_not_mem k rest hn.1
      · simp [erase, lookup_cons, hk]
    · by_cases hk0 : k = k0
      · subst hk0; simp [erase, lookup_cons, h0]
      · simp [erase, lookup_cons, h0, hk0, ih hn.2]

theorem erase_append_of_lookup_none (k : String) (a b : List (String × α)) (h : lookup k a = none) :
    erase k (a ++ b) = a ++ erase k b := by
  induction a with
  | nil => rfl
  | cons kv rest ih =>
    obtain ⟨k0, v0⟩ := kv
    rw [lookup_cons] at h
    split at h
    · cases h
    · rename_i hne
      simp [erase, Ne.symm hne, ih h]

theorem insert_nodup (k : String) (v : α) (d : List (String × α)) (hn : (d.map Prod.fst).Nodup) :
    ((Py.insert k v d).map Prod.fst).Nodup := by
  cases hl : lookup k d with
  | some v0 => rw [map_fst_insert_of_lookup k v v0 d hl]; exact hn
  | none =>
    have hk := (lookup_eq_none_iff k d).mp hl
    rw [insert_of_not_mem k v d hk, List.map_append, List.nodup_append]
    exact ⟨hn, by simp, fun a ha b hb e => hk (by simp at hb; rw [← hb, ← e]; exact ha)⟩

theorem erase_sublist (k : String) (d : List (String × α)) : ((erase k d).map Prod.fst).Sublist (d.map Prod.fst) := by
  induction d with
  | nil => exact List.Sublist.refl _
  | cons kv rest ih =>
    obtain ⟨k0, v0⟩ := kv
    simp only [erase]
    split
    · exact List.Sublist.cons _ (List.Sublist.refl _)
    · exact List.Sublist.cons_cons _ ih

theorem erase_nodup (k : String) (d : List (String × α)) (hn : (d.map Prod.fst).Nodup) :
    ((erase k d).map Prod.fst).Nodup := (erase_sublist k d).nodup hn

theorem lookup_map_val {α β : Type} (f : String → α → β) (k : String) (l : List (String × α)) :
    lookup k (l.map fun kv => (kv.1, f kv.1 kv.2)) = (lookup k l).map (f k) := by
  induction l with
  | nil => rfl
  | cons kv rest ih =>
    obtain ⟨k0, v0⟩ := kv
    by_cases h : k = k0
    · subst h; simp [lookup_cons]
    · simp [lookup_cons, h, ih]

theorem insertAll_append {α} (d l : List (String × α)) (h : ((d ++ l).map Prod.fst).Nodup) : insertAll d l = d ++ l := by
  induction l generalizing d with
  | nil => simp [insertAll]
  | cons kv rest ih =>
    obtain ⟨k, v⟩ := kv
    have hk : k ∉ d.map Prod.fst := fun hm =>
      (List.nodup_append.mp (List.map_append ▸ h)).2.2 k hm k (by simp) rfl
    rw [insertAll, insert_of_not_mem k v d hk, ih _ (by simpa using h), List.append_assoc]; rfl

theorem insertAll_nil {α} (l : List (String × α)) (hn : (l.map Prod.fst).Nodup) : insertAll [] l = l :=
  insertAll_append [] l hn

theorem insertAll_values {α} (p : α → Bool) (acc l : List (String × α))
    (hacc : acc.any (fun kv => p kv.2) = false) (hl : l.any (fun kv => p kv.2) = false) :
    (insertAll acc l).any (fun kv => p kv.2) = false := by
  induction l generalizing acc with
  | nil => simpa [insertAll] using hacc
  | cons kv rest ih =>
    obtain ⟨k, v⟩ := kv
    simp only [List.any_cons, Bool.or_eq_false_iff] at hl
    simp only [insertAll]
    apply ih _ _ hl.2
    clear ih
    induction acc with
    | nil => simp [Py.insert, hl.1]
    | cons kv0 acc ih2 =>
      obtain ⟨k0, v0⟩ := kv0
      simp only [List.any_cons, Bool.or_eq_false_iff] at hacc
      by_cases hk : k0 = k <;> simp [Py.insert, hk, hl.1, hacc.1, hacc.2, ih2 hacc.2]

theorem getItem_typeDict (key : String) (v : Val) : getItem (typeDict key v) key = .ok v := by
  simp [getItem, typeDict, lookup]

end NirVerif.Lemmas
