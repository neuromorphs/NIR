import NirVerif.Model.Dict
import NirVerif.Lemmas.Construct
/-! Equations of `toDict` and of `fromDictFuel` (`dict2NIRNode`).  `fromDictFuel` is unfolded once, in `fromDictFuel_succ`;
its recursive branch is `graphOfDict` with the recursive call as a parameter.  The per-class equations, the inversion
`fromDictFuel_ok` and the irrelevance of fuel (`fromDictFuel_fuel`, `fromDict_graph`: `graphOfDict` calls its parameter
on less deep values only, `graphOfDict_congr`) follow from that equation. -/
namespace NirVerif.Lemmas
open NirVerif NirVerif.Py NirVerif.Model


theorem toDict_generic (kind : String) (fields : List (String × Val)) (it ot md : Val)
    (hk : kind ≠ "NIRGraph" ∧ kind ≠ "Input" ∧ kind ≠ "Output" ∧ kind ≠ "Flatten") :
    toDict (Node.mk kind fields it ot md [] []) = .ok (.dict (fields ++ [("metadata", md), ("type", .str kind)])) := by
  obtain ⟨h1, h2, h3, h4⟩ := hk
  unfold toDict
  split <;> first | rfl | contradiction

/-- Input, Output and Flatten add one entry: the value at the port of one side -/
theorem toDict_input (fields : List (String × Val)) (it ot md : Val) (ch : Nodes) (ed : List Edge) :
    toDict (Node.mk "Input" fields it ot md ch ed) = (getItem it "input").bind fun s =>
      .ok (.dict (fields ++ [("metadata", md), ("type", .str "Input"), ("shape", s)])) := rfl

theorem toDict_output (fields : List (String × Val)) (it ot md : Val) (ch : Nodes) (ed : List Edge) :
    toDict (Node.mk "Output" fields it ot md ch ed) = (getItem ot "output").bind fun s =>
      .ok (.dict (fields ++ [("metadata", md), ("type", .str "Output"), ("shape", s)])) := rfl

theorem toDict_flatten (fields : List (String × Val)) (it ot md : Val) (ch : Nodes) (ed : List Edge) :
    toDict (Node.mk "Flatten" fields it ot md ch ed) = (getItem it "input").bind fun s =>
      .ok (.dict (fields ++ [("metadata", md), ("type", .str "Flatten"), ("input_type", s)])) := rfl

theorem toDict_isDict {n : Node} {d : Val} (h : toDict n = .ok d) : ∃ kvs, d = .dict kvs ∧ kvs ≠ [] := by
  cases n with
  | mk kind fs i o m ch ed =>
    simp only [toDict, bind, Except.bind, pure, Except.pure] at h
    repeat' split at h
    all_goals first | (cases h; exact ⟨_, rfl, by simp⟩) | cases h

def graphSpec : List (String × Option Val) := (lookup "NIRGraph" Generated.classFields).getD []

/-- the class-specific rewriting of the dictionary by `cls.from_dict`, for the classes that are not graphs -/
def fromDictKwargs (kind : String) (kvs : List (String × Val)) : Except PyErr (List (String × Val)) :=
  match kind with
  | "Input" =>
      match lookup "shape" kvs with
      | some s => .ok (erase "shape" (Py.insert "input_type" (typeDict "input" s) kvs))
      | none => .error .keyError
  | "Output" =>
      match lookup "shape" kvs with
      | some s => .ok (erase "shape" (Py.insert "output_type" (typeDict "output" s) kvs))
      | none => .error .keyError
  | "Flatten" => .ok (Py.insert "input_type" (typeDict "input" ((lookup "input_type" kvs).getD .none)) kvs)
  | _ => .ok kvs

theorem fromDictKwargs_generic (kind : String) (kvs : List (String × Val))
    (h : kind ≠ "Input" ∧ kind ≠ "Output" ∧ kind ≠ "Flatten") : fromDictKwargs kind kvs = .ok kvs := by
  obtain ⟨h1, h2, h3⟩ := h
  unfold fromDictKwargs
  split <;> first | rfl | contradiction

/-- `{k: c(v) for k, v in l.items()}`, the first error ending it: how either direction of the dictionary form treats the
children of a graph (`toDictChildren_eq`, `graphOfDict`) -/
def mapVals {α β : Type} (c : α → Except PyErr β) (l : List (String × α)) : Except PyErr (List (String × β)) :=
  l.mapM fun kv => (c kv.2).map fun b => (kv.1, b)

theorem mapVals_cons {α β : Type} (c : α → Except PyErr β) (k : String) (a : α) (l : List (String × α)) :
    mapVals c ((k, a) :: l) = (c a).bind fun b => (mapVals c l).bind fun r => .ok ((k, b) :: r) := by
  unfold mapVals
  rw [List.mapM_cons]
  cases c a <;> rfl

theorem mapVals_congr {α β : Type} {c1 c2 : α → Except PyErr β} {l : List (String × α)}
    (h : ∀ kv ∈ l, c1 kv.2 = c2 kv.2) : mapVals c1 l = mapVals c2 l :=
  mapM_congr _ _ l fun kv hkv => by rw [h kv hkv]

theorem mapVals_spec {α β : Type} (c : α → Except PyErr β) (l : List (String × α)) (l' : List (String × β))
    (h : mapVals c l = .ok l') :
    l'.map Prod.fst = l.map Prod.fst ∧
    (∀ k a, lookup k l = some a → ∃ b, lookup k l' = some b ∧ c a = .ok b) ∧
    ∀ kv ∈ l, ∃ b, c kv.2 = .ok b := by
  induction l generalizing l' with
  | nil => cases h; exact ⟨rfl, nofun, nofun⟩
  | cons kv rest ih =>
    obtain ⟨k0, a0⟩ := kv
    rw [mapVals_cons] at h
    obtain ⟨b0, h0, h⟩ := bind_ok h
    obtain ⟨r', hr, h⟩ := bind_ok h
    cases h
    obtain ⟨ih1, ih2, ih3⟩ := ih r' hr
    refine ⟨congrArg (k0 :: ·) ih1, fun k a hl => ?_, List.forall_mem_cons.mpr ⟨⟨b0, h0⟩, ih3⟩⟩
    rw [lookup_cons] at hl ⊢
    split at hl
    · cases hl; exact ⟨b0, if_pos ‹_›, h0⟩
    · rw [if_neg ‹_›]; exact ih2 k a hl

/-- if `c'` undoes `c` on every value, it undoes it on the dictionary -/
theorem mapVals_roundtrip {α β : Type} {c : α → Except PyErr β} {c' : β → Except PyErr α} {l : List (String × α)}
    (h : ∀ kv ∈ l, (c kv.2).bind c' = .ok kv.2) : ∃ l', mapVals c l = .ok l' ∧ mapVals c' l' = .ok l := by
  induction l with
  | nil => exact ⟨[], rfl, rfl⟩
  | cons kv rest ih =>
    obtain ⟨k0, a0⟩ := kv
    obtain ⟨b0, hb, hb'⟩ := bind_ok (h (k0, a0) List.mem_cons_self)
    obtain ⟨r, hr, hr'⟩ := ih fun kv hkv => h kv (List.mem_cons_of_mem _ hkv)
    exact ⟨(k0, b0) :: r, by rw [mapVals_cons, hb, hr]; rfl, by rw [mapVals_cons, hb', hr']; rfl⟩

/-- `NIRGraph.from_dict`, with what `dict2NIRNode` does to a child dictionary as a parameter -/
def graphOfDict (child : Val → Except PyErr Node) (D : List (String × Val)) : Except PyErr Node :=
  (match lookup "nodes" D with
    | some (.dict c) => Except.ok c
    | some _ => .error PyErr.attributeError
    | none => .error PyErr.keyError).bind fun childDicts =>
  (mapVals child childDicts).bind fun children =>
  (match lookup "edges" D with | some v => decodeEdges v | none => .error .keyError).bind fun edges =>
  (bindKwargs graphSpec (Py.insert "edges" .none (Py.insert "nodes" .none (erase "type" D)))).bind fun bound =>
  .ok (mkGraph (insertAll [] children) edges ((lookup "metadata" bound).getD (.dict [])))

theorem fromDictFuel_succ (fuel : Nat) (kvs : List (String × Val)) :
    fromDictFuel (fuel + 1) (.dict kvs) =
      (match lookup "type" kvs with | some t => str2NIRNode t | none => .error .keyError).bind fun kind =>
      if kind = "NIRGraph" then graphOfDict (fromDictFuel fuel) kvs
      else (fromDictKwargs kind kvs).bind fun kw => construct kind (erase "type" kw) := by
  cases ht : lookup "type" kvs with
  | none => simp only [fromDictFuel, ht, bind, Except.bind, throw, throwThe, MonadExceptOf.throw]
  | some t =>
    cases hk : str2NIRNode t with
    | error e => simp only [fromDictFuel, ht, hk, bind, Except.bind, pure, Except.pure]
    | ok kind =>
      by_cases hg : kind = "NIRGraph"
      · subst hg
        simp only [fromDictFuel, ht, hk, bind, Except.bind, pure, Except.pure, if_true, beq_self_eq_true, graphOfDict,
          graphSpec]
        cases lookup "nodes" kvs with
        | none => rfl
        | some v =>
          cases v with
          | dict c => cases lookup "edges" kvs <;> rfl
          | _ => rfl
      · have e4 : (kind == "NIRGraph") = false := by simpa using hg
        simp only [fromDictFuel, ht, hk, bind, Except.bind, pure, Except.pure, e4, Bool.false_eq_true, if_false, if_neg hg]
        split
        · cases hs : lookup "shape" kvs <;> simp only [fromDictKwargs, hs, throw, throwThe, MonadExceptOf.throw]
        · cases hs : lookup "shape" kvs <;> simp only [fromDictKwargs, hs, throw, throwThe, MonadExceptOf.throw]
        · rfl
        · simp only [fromDictKwargs]

theorem fromDictFuel_no_type {fuel : Nat} {kvs : List (String × Val)} (ht : lookup "type" kvs = none) :
    fromDictFuel (fuel + 1) (.dict kvs) = .error .keyError := by
  simp only [fromDictFuel_succ, ht]; rfl

theorem fromDictFuel_type {fuel : Nat} {kvs : List (String × Val)} {t : Val} {e : PyErr}
    (ht : lookup "type" kvs = some t) (hs : str2NIRNode t = .error e) :
    fromDictFuel (fuel + 1) (.dict kvs) = .error e := by
  simp only [fromDictFuel_succ, ht, hs]; rfl

theorem str2NIRNode_str {kind : String} (hw : kind ∈ Generated.whitelist) : str2NIRNode (.str kind) = .ok kind := by
  simp [str2NIRNode, hw]

theorem str2NIRNode_of_not_mem {s : String} (hs : s ∉ Generated.whitelist) :
    str2NIRNode (.str s) = .error .assertionError := by
  simp [str2NIRNode, hs]

theorem fromDictFuel_leaf_eq {fuel : Nat} {kvs : List (String × Val)} {kind : String}
    (ht : lookup "type" kvs = some (.str kind)) (hw : kind ∈ Generated.whitelist) (hg : kind ≠ "NIRGraph") :
    fromDictFuel (fuel + 1) (.dict kvs) = (fromDictKwargs kind kvs).bind fun kw => construct kind (erase "type" kw) := by
  simp only [fromDictFuel_succ, ht, str2NIRNode_str hw, Except.bind, if_neg hg]

/-- the classes without a `from_dict` of their own -/
theorem fromDictFuel_generic (fuel : Nat) (kvs : List (String × Val)) (kind : String)
    (ht : lookup "type" kvs = some (.str kind)) (hw : kind ∈ Generated.whitelist)
    (hgen : kind ≠ "Input" ∧ kind ≠ "Output" ∧ kind ≠ "Flatten" ∧ kind ≠ "NIRGraph") :
    fromDictFuel (fuel + 1) (.dict kvs) = construct kind (erase "type" kvs) := by
  rw [fromDictFuel_leaf_eq ht hw hgen.2.2.2, fromDictKwargs_generic kind kvs ⟨hgen.1, hgen.2.1, hgen.2.2.1⟩]
  rfl

/-- the two classes whose dictionary stores a bare `shape`: class name, the keyword `from_dict` turns it into, and the
port name of the type dictionary it is wrapped in -/
def IOClass (kind kw port : String) : Prop :=
  (kind = "Input" ∧ kw = "input_type" ∧ port = "input") ∨ (kind = "Output" ∧ kw = "output_type" ∧ port = "output")

theorem fromDictFuel_io (fuel : Nat) (kvs : List (String × Val)) (s : Val) {kind kw port : String}
    (hio : IOClass kind kw port) (ht : lookup "type" kvs = some (.str kind)) (hs : lookup "shape" kvs = some s) :
    fromDictFuel (fuel + 1) (.dict kvs) =
      construct kind (erase "type" (erase "shape" (Py.insert kw (typeDict port s) kvs))) := by
  rcases hio with ⟨rfl, rfl, rfl⟩ | ⟨rfl, rfl, rfl⟩ <;>
    rw [fromDictFuel_leaf_eq ht (by decide) (by decide)] <;> simp only [fromDictKwargs, hs] <;> rfl

theorem fromDictFuel_flatten (fuel : Nat) (kvs : List (String × Val))
    (ht : lookup "type" kvs = some (.str "Flatten")) :
    fromDictFuel (fuel + 1) (.dict kvs) =
      construct "Flatten" (erase "type"
        (Py.insert "input_type" (typeDict "input" ((lookup "input_type" kvs).getD .none)) kvs)) := by
  rw [fromDictFuel_leaf_eq ht (by decide) (by decide)]; rfl

theorem fromDictFuel_graph_eq (fuel : Nat) (D : List (String × Val)) (ht : lookup "type" D = some (.str "NIRGraph")) :
    fromDictFuel (fuel + 1) (.dict D) = graphOfDict (fromDictFuel fuel) D := by
  simp only [fromDictFuel_succ, ht, str2NIRNode_str (by decide : "NIRGraph" ∈ Generated.whitelist), Except.bind, if_true]

/-! ## fuel

`fromDictFuel` is `dict2NIRNode` cut off at a nesting depth.  A dictionary that is not a graph never recurses; a graph
recurses into the values under `nodes`, which are less deep: so any fuel above the depth gives the same result, and
`fromDict` obeys the graph equation with itself in place of the recursive call. -/

theorem depthList_le_of_mem (k : String) (v : Val) (d : List (String × Val)) (h : (k, v) ∈ d) :
    Val.depth v ≤ Val.depth.depthList d := by
  induction d with
  | nil => cases h
  | cons kv rest ih =>
    obtain ⟨k0, v0⟩ := kv
    simp only [Val.depth.depthList]
    rcases List.mem_cons.mp h with h1 | h1
    · cases h1; omega
    · have := ih h1; omega

theorem str2NIRNode_ok {t : Val} {kind : String} (h : str2NIRNode t = .ok kind) :
    t = .str kind ∧ kind ∈ Generated.whitelist := by
  unfold str2NIRNode at h
  split at h
  · split at h
    · rename_i hc; cases h; exact ⟨rfl, by simpa using hc⟩
    · cases h
  all_goals cases h

theorem graphOfDict_ok {child : Val → Except PyErr Node} {D : List (String × Val)} {n : Node}
    (h : graphOfDict child D = .ok n) :
    ∃ cd cs es md, lookup "nodes" D = some (.dict cd) ∧
      mapVals child cd = .ok cs ∧
      n = mkGraph (insertAll [] cs) es md := by
  obtain ⟨cd, hcd, h⟩ := bind_ok h
  obtain ⟨cs, hcs, h⟩ := bind_ok h
  obtain ⟨es, -, h⟩ := bind_ok h
  obtain ⟨b, -, h⟩ := bind_ok h
  refine ⟨cd, cs, es, _, ?_, hcs, (Except.ok.inj h).symm⟩
  split at hcd <;> cases hcd
  assumption

/-- `graphOfDict` applies `child` to values at least two levels less deep than the dictionary -/
theorem graphOfDict_congr {c1 c2 : Val → Except PyErr Node} {D : List (String × Val)}
    (h : ∀ v, Val.depth v + 2 ≤ Val.depth (.dict D) → c1 v = c2 v) : graphOfDict c1 D = graphOfDict c2 D := by
  unfold graphOfDict
  cases hn : lookup "nodes" D with
  | none => rfl
  | some v =>
    cases v with
    | dict c =>
      have hc := depthList_le_of_mem _ _ _ (mem_of_lookup _ _ _ hn)
      simp only [Val.depth] at hc h
      simp only [Except.bind]
      rw [mapVals_congr fun kv hkv => h kv.2 (by have := depthList_le_of_mem kv.1 kv.2 c hkv; omega)]
    | _ => rfl

theorem fromDictFuel_ok {fuel : Nat} {d : Val} {n : Node} (h : fromDictFuel fuel d = .ok n) :
    ∃ f kvs kind, fuel = f + 1 ∧ d = .dict kvs ∧ lookup "type" kvs = some (.str kind) ∧ kind ∈ Generated.whitelist ∧
      if kind = "NIRGraph" then graphOfDict (fromDictFuel f) kvs = .ok n else ∃ kw, construct kind kw = .ok n := by
  cases fuel with
  | zero => cases h
  | succ f =>
  cases d with
  | dict kvs =>
    rw [fromDictFuel_succ] at h
    obtain ⟨kind, hk, h⟩ := bind_ok h
    split at hk
    · rename_i t ht
      obtain ⟨rfl, hw⟩ := str2NIRNode_ok hk
      refine ⟨f, kvs, kind, rfl, rfl, ht, hw, ?_⟩
      split at h
      · rw [if_pos ‹_›]; exact h
      · rw [if_neg ‹_›]
        obtain ⟨kw, -, h⟩ := bind_ok h
        exact ⟨_, h⟩
    · cases hk
  | _ => cases h

theorem fromDictFuel_fuel (f1 : Nat) : ∀ (f2 : Nat) (d : Val), Val.depth d < f1 → Val.depth d < f2 →
    fromDictFuel f1 d = fromDictFuel f2 d := by
  induction f1 with
  | zero => intro _ _ h; omega
  | succ f1 ih =>
    intro f2 d h1 h2
    obtain ⟨f2, rfl⟩ : ∃ g, f2 = g + 1 := ⟨f2 - 1, by omega⟩
    cases d with
    | dict kvs =>
      rw [fromDictFuel_succ, fromDictFuel_succ, graphOfDict_congr fun v hv => ih f2 v (by omega) (by omega)]
    | _ => rfl

theorem fromDictFuel_eq_fromDict {fuel : Nat} {d : Val} (h : Val.depth d < fuel) : fromDictFuel fuel d = fromDict d :=
  fromDictFuel_fuel fuel _ d h (Nat.lt_succ_self _)

theorem fromDict_graph (D childDicts : List (String × Val)) (edgesV : Val)
    (ht : lookup "type" D = some (.str "NIRGraph")) (hn : lookup "nodes" D = some (.dict childDicts))
    (he : lookup "edges" D = some edgesV) :
    fromDict (.dict D) =
      (mapVals fromDict childDicts).bind fun children =>
      (decodeEdges edgesV).bind fun edges =>
      (bindKwargs graphSpec (Py.insert "edges" .none (Py.insert "nodes" .none (erase "type" D)))).bind fun bound =>
      .ok (mkGraph (insertAll [] children) edges ((lookup "metadata" bound).getD (.dict []))) := by
  rw [fromDict, fromDictFuel_graph_eq _ D ht,
    graphOfDict_congr (c2 := fromDict) fun v hv => fromDictFuel_eq_fromDict (by omega), graphOfDict, hn, he]
  rfl

theorem toDictChildren_eq (children : List (String × Node)) :
    toDict.toDictChildren children = mapVals toDict children := by
  induction children with
  | nil => rfl
  | cons kn rest ih =>
    obtain ⟨k, n⟩ := kn
    rw [mapVals_cons, ← ih]
    rfl

theorem toDict_graph (fields : List (String × Val)) (it ot md : Val) (children : Nodes) (edges : List Edge) :
    toDict (Node.mk "NIRGraph" fields it ot md children edges) =
      (mapVals toDict children).bind fun kids =>
        .ok (.dict [("nodes", .dict kids), ("edges", edgesVal edges), ("metadata", md), ("type", .str "NIRGraph")]) := by
  rw [← toDictChildren_eq]
  rfl

theorem graph_kwargs_bound (D : List (String × Val)) (hnodup : (D.map Prod.fst).Nodup)
    (hother : ∀ k, k ≠ "type" → k ≠ "nodes" → k ≠ "edges" → k ≠ "metadata" → lookup k D = none) :
    ∃ bound, bindKwargs graphSpec (Py.insert "edges" .none (Py.insert "nodes" .none (erase "type" D))) = .ok bound ∧
      (lookup "metadata" bound).getD (.dict []) = (lookup "metadata" D).getD (.dict []) := by
  have hD : ∀ k, lookup k (Py.insert "edges" Val.none (Py.insert "nodes" Val.none (erase "type" D))) =
      lookup k ([("nodes", Val.none), ("edges", Val.none)] ++
        match lookup "metadata" D with | some m => [("metadata", m)] | none => []) := by
    intro k
    rw [lookup_insert_eq, lookup_insert_eq, lookup_erase_nodup _ _ _ hnodup]
    by_cases hk : k ∈ ["edges", "nodes", "type", "metadata"]
    · simp only [List.mem_cons, List.mem_nil_iff, or_false] at hk
      rcases hk with rfl | rfl | rfl | rfl <;> cases lookup "metadata" D <;> rfl
    · simp only [List.mem_cons, List.mem_nil_iff, or_false, not_or] at hk
      obtain ⟨h1, h2, h3, h4⟩ := hk
      rw [hother k h3 h2 h1 h4]
      cases lookup "metadata" D <;> simp [lookup_cons, lookup_nil, h1, h2, h3, h4]
  rw [bindKwargs_lookup_congr _ _ _ hD]
  cases lookup "metadata" D <;> exact ⟨_, rfl, rfl⟩

theorem toDict_graph_ok {fields : List (String × Val)} {it ot md : Val} {children : Nodes} {edges : List Edge} {d : Val}
    (h : toDict (Node.mk "NIRGraph" fields it ot md children edges) = .ok d) :
    ∃ kids, d = .dict [("nodes", .dict kids), ("edges", edgesVal edges), ("metadata", md), ("type", .str "NIRGraph")] ∧
      kids.map Prod.fst = children.map Prod.fst ∧
      ∀ k c, lookup k children = some c → ∃ cd, lookup k kids = some cd ∧ toDict c = .ok cd := by
  rw [toDict_graph] at h
  obtain ⟨kids, hkids, h⟩ := bind_ok h
  cases h
  exact ⟨kids, rfl, (mapVals_spec toDict children kids hkids).1, (mapVals_spec toDict children kids hkids).2.1⟩

end NirVerif.Lemmas
