import NirVerif.Model.File
import NirVerif.Lemmas.Construct
/-! The file form.  One induction over `write_recursive` (`write_inv`) gives `write_encodes`: the written group is exactly
the encoding (`Encodes`) of the dictionary.  `back_of_encodes` turns that into what the reader returns (`Back`).
Everything else about files is read off `Encodes` / `Back`.  Fuel: `writeRecursiveFuel` spends one unit per entry and hands
what is left both to the rest of the dictionary and to the entry's sub-dictionary, so the number of entries at all depths
(`Val.size`, what `write` supplies) is enough; the index of `Encodes` and `Back` bounds the nesting depth, and the fuel serves for it. -/
namespace NirVerif.Lemmas
open NirVerif NirVerif.Py NirVerif.Model

theorem h5Create_arr (dt : DType) (sh : List Nat) (d : Bytes) (hdt : dt.kind ≠ .object ∧ dt.kind ≠ .unicodeU) :
    h5Create (.arr dt sh d) = some (.num dt sh d) := by
  -- `simp` decides the `match` on `dt.kind` from the two inequalities once they stand in the context
  obtain ⟨h1, h2⟩ := hdt
  simp only [h5Create]

theorem h5Create_str (s : String) (hs : ¬ s.toList.contains (Char.ofNat 0)) : h5Create (.str s) = some (.str s) := by
  simp only [h5Create, hs, Bool.false_eq_true, if_false]

theorem h5Create_int (i : Int) (hi : fitsInt DType.int64 i = true) :
    h5Create (.int i) = some (.num DType.int64 [] (encodeInt DType.int64 i)) := by
  simp only [h5Create, hi, if_true]

theorem h5Create_npscalar (dt : DType) (d : Bytes) : h5Create (.npscalar dt d) = some (.num dt [] d) := rfl

theorem h5Load_scalar (dt : DType) (d : Bytes) (hle : dt.big = false) : h5Load (.num dt [] d) = .npscalar dt d := by
  simp only [h5Load, hle, Bool.false_eq_true, if_false]

theorem codesLE_refl (l : List Nat) : codesLE l l = true := by
  induction l with
  | nil => rfl
  | cons a as ih => simp [codesLE, ih]

theorem nameLE_refl (s : String) : nameLE s s = true := codesLE_refl _

theorem lookup_insertSorted (name : String) (item : H5) (acc : List (String × H5)) (k : String) :
    lookup k (insertSorted name item acc) = if k = name then some item else lookup k acc := by
  induction acc with
  | nil => exact lookup_cons k name item []
  | cons kv rest ih =>
    obtain ⟨k0, v0⟩ := kv
    simp only [insertSorted]
    split
    · exact lookup_cons k name item _
    · rename_i hle
      rw [lookup_cons, lookup_cons, ih]
      by_cases hk0 : k = k0
      · have : k0 ≠ name := fun e => hle (e ▸ nameLE_refl k0)
        simp [hk0, this]
      · simp [hk0]

theorem insertSorted_perm (name : String) (item : H5) (acc : List (String × H5)) :
    ((insertSorted name item acc).map Prod.fst).Perm (name :: acc.map Prod.fst) := by
  induction acc with
  | nil => exact List.Perm.refl _
  | cons kv rest ih =>
    obtain ⟨k0, v0⟩ := kv
    simp only [insertSorted]
    split
    · exact List.Perm.refl _
    · simp only [List.map_cons]
      exact (List.Perm.cons k0 ih).trans (List.Perm.swap name k0 _)

theorem addMember_ok {k : String} {item : H5} {acc acc' : List (String × H5)} (h : addMember k item acc = .ok acc') :
    lookup k acc = none ∧ (∀ k', lookup k' acc' = if k' = k then some item else lookup k' acc) ∧
    ((acc.map Prod.fst).Nodup → (acc'.map Prod.fst).Nodup) := by
  unfold addMember h5Insert at h
  split at h
  · cases h
  · split at h
    · rename_i hi
      split at hi
      · cases hi
      · rename_i hfresh
        cases hi; cases h
        have hfresh : lookup k acc = none := by simpa [hasKey] using hfresh
        exact ⟨hfresh, lookup_insertSorted k item acc, fun hn =>
          (insertSorted_perm k item acc).nodup_iff.mpr (List.nodup_cons.mpr ⟨(lookup_eq_none_iff k acc).mp hfresh, hn⟩)⟩
    · cases h

/-- the link `write_recursive` makes of one entry (`none`: an empty `metadata` is skipped) -/
def memberOf (fuel : Nat) (k : String) (v : Val) : Except PyErr (Option H5) :=
  match v with
  | .dict kvs =>
      if k == "metadata" && kvs.isEmpty then .ok none
      else match writeRecursiveFuel fuel kvs [] with
        | .ok sub => .ok (some (.group sub))
        | .error e => .error e
  | _ =>
      if k == "metadata" then .error .attributeError
      else match h5Create v with
        | some ds => .ok (some (.dset ds))
        | none => .error .typeError

theorem writeRecursiveFuel_cons (fuel : Nat) (k : String) (v : Val) (rest : List (String × Val)) (acc : List (String × H5)) :
    writeRecursiveFuel (fuel + 1) ((k, v) :: rest) acc =
      if badName k then .error .valueError else
      match memberOf fuel k v with
      | .error e => .error e
      | .ok none => writeRecursiveFuel fuel rest acc
      | .ok (some item) =>
        match addMember k item acc with
        | .error e => .error e
        | .ok acc' => writeRecursiveFuel fuel rest acc' := by
  cases v <;> rfl

theorem write_cons_ok {fuel : Nat} {k : String} {v : Val} {rest : List (String × Val)} {acc items : List (String × H5)}
    (h : writeRecursiveFuel fuel ((k, v) :: rest) acc = .ok items) :
    ∃ f, fuel = f + 1 ∧
      ((memberOf f k v = .ok none ∧ writeRecursiveFuel f rest acc = .ok items) ∨
       ∃ item acc', memberOf f k v = .ok (some item) ∧ addMember k item acc = .ok acc' ∧
         writeRecursiveFuel f rest acc' = .ok items) := by
  cases fuel with
  | zero => cases h
  | succ f =>
    refine ⟨f, rfl, ?_⟩
    rw [writeRecursiveFuel_cons] at h
    split at h
    · cases h
    · split at h
      · cases h
      · exact Or.inl ⟨by assumption, h⟩
      · split at h
        · cases h
        · exact Or.inr ⟨_, _, by assumption, by assumption, h⟩

theorem memberOf_ok {fuel : Nat} {k : String} {v : Val} {o : Option H5} (h : memberOf fuel k v = .ok o) :
    (k = "metadata" ∧ v = .dict [] ∧ o = none) ∨
    (∃ d sub, v = .dict d ∧ writeRecursiveFuel fuel d [] = .ok sub ∧ o = some (.group sub)) ∨
    ((∀ d, v ≠ .dict d) ∧ ∃ ds, h5Create v = some ds ∧ o = some (.dset ds)) := by
  unfold memberOf at h
  split at h
  · split at h
    · rename_i kvs hk
      simp only [Bool.and_eq_true, beq_iff_eq, List.isEmpty_iff] at hk
      cases h; exact .inl ⟨hk.1, by rw [hk.2], rfl⟩
    · split at h <;> cases h
      exact .inr (.inl ⟨_, _, rfl, by assumption, rfl⟩)
  · rename_i hnd
    split at h
    · cases h
    · split at h <;> cases h
      exact .inr (.inr ⟨fun d hd => hnd d hd, _, by assumption, rfl⟩)

/-- The loop invariant of `write_recursive`, general in the links `acc` already in the group: names stay distinct; a
name that `acc` already holds, or that `kvs` has only as an empty `metadata`, is looked up as before (the writer
refuses to link a name twice, so a written name was not in `acc`); every other entry is linked to its member.  The last
clause keeps the fuel `f < fuel` each member was made with: `write_encodes` recurses on it. -/
theorem write_inv {kvs : List (String × Val)} {fuel : Nat} {acc items : List (String × H5)}
    (h : writeRecursiveFuel fuel kvs acc = .ok items) :
    ((acc.map Prod.fst).Nodup → (items.map Prod.fst).Nodup) ∧
    (∀ k, (lookup k acc ≠ none ∨ ∀ v, (k, v) ∈ kvs → k = "metadata" ∧ v = .dict []) → lookup k items = lookup k acc) ∧
    (∀ k v, lookup k kvs = some v → ¬ (k = "metadata" ∧ v = .dict []) →
      ∃ f item, f < fuel ∧ memberOf f k v = .ok (some item) ∧ lookup k items = some item) := by
  induction kvs generalizing fuel acc with
  | nil =>
    cases fuel <;> cases h
    exact ⟨id, fun _ _ => rfl, fun k v hl => by cases hl⟩
  | cons kv rest ih =>
    obtain ⟨k0, v0⟩ := kv
    obtain ⟨f, rfl, ⟨hm, hr⟩ | ⟨item, acc', hm, ha, hr⟩⟩ := write_cons_ok h
    · -- the entry is an empty `metadata`: skipped
      obtain ⟨rfl, rfl, -⟩ | ⟨_, _, _, _, ⟨⟩⟩ | ⟨_, _, _, ⟨⟩⟩ := memberOf_ok hm
      obtain ⟨ihN, ihQ, ihC⟩ := ih hr
      refine ⟨ihN, fun k hk => ihQ k (hk.imp_right fun hk v hv => hk v (List.mem_cons_of_mem _ hv)), ?_⟩
      intro k v hl hne
      rw [lookup_cons] at hl
      split at hl
      · rename_i hk; cases hl; exact absurd ⟨hk, rfl⟩ hne
      · obtain ⟨f', item, hlt, hm', hi⟩ := ihC k v hl hne
        exact ⟨f', item, Nat.lt_succ_of_lt hlt, hm', hi⟩
    · -- the entry is linked under `k0`, which was free
      obtain ⟨hfresh, hlk, hnd⟩ := addMember_ok ha
      obtain ⟨ihN, ihQ, ihC⟩ := ih hr
      refine ⟨fun hn => ihN (hnd hn), ?_, ?_⟩
      · intro k hk
        have hne : k ≠ k0 := by
          rintro rfl
          rcases hk with hk | hk
          · exact hk hfresh
          · obtain ⟨rfl, rfl⟩ := hk v0 List.mem_cons_self
            cases hm
        rw [ihQ k (by rw [hlk, if_neg hne]; exact hk.imp_right fun hk v hv => hk v (List.mem_cons_of_mem _ hv)), hlk,
          if_neg hne]
      · intro k v hl hne
        rw [lookup_cons] at hl
        split at hl
        · rename_i hk
          cases hl; subst hk
          exact ⟨f, item, Nat.lt_succ_self _, hm, by rw [ihQ k (Or.inl (by simp [hlk])), hlk, if_pos rfl]⟩
        · obtain ⟨f', item', hlt, hm', hi⟩ := ihC k v hl hne
          exact ⟨f', item', Nat.lt_succ_of_lt hlt, hm', hi⟩

theorem write_nodup (fuel : Nat) (kvs : List (String × Val)) (acc items : List (String × H5))
    (h : writeRecursiveFuel fuel kvs acc = .ok items) (hn : (acc.map Prod.fst).Nodup) :
    (items.map Prod.fst).Nodup := (write_inv h).1 hn

/-! `Encodes n kvs ms`: the links `ms` of an HDF5 group are exactly the encoding of the dictionary `kvs` — per plain entry a
dataset under its key holding what `create_dataset` makes of the value, per dictionary entry a sub-group that encodes it,
no `metadata` member for an empty `metadata`, nothing else, no name twice.  `n` bounds the nesting depth. -/

def Encodes : Nat → List (String × Val) → List (String × H5) → Prop
  | 0, _, _ => False
  | n + 1, kvs, ms =>
    (ms.map Prod.fst).Nodup ∧
    (∀ k, lookup k kvs = none → lookup k ms = none) ∧
    (∀ k v, lookup k kvs = some v → k ≠ "metadata" → (∀ d, v ≠ .dict d) →
        ∃ ds, h5Create v = some ds ∧ lookup k ms = some (.dset ds)) ∧
    ((∀ kv ∈ kvs, kv.1 = "metadata" → kv.2 = .dict []) → lookup "metadata" ms = none) ∧
    (∀ k d, lookup k kvs = some (.dict d) → ¬ (k = "metadata" ∧ d = []) →
        ∃ sub, lookup k ms = some (.group sub) ∧ Encodes n d sub)

section

variable {n : Nat} {kvs : List (String × Val)} {ms : List (String × H5)}

theorem Encodes.mono {m : Nat} (h : n ≤ m) (he : Encodes n kvs ms) : Encodes m kvs ms := by
  induction n generalizing m kvs ms with
  | zero => exact absurd he (by simp [Encodes])
  | succ n ih =>
    cases m with
    | zero => omega
    | succ m =>
      obtain ⟨h1, h2, h3, h4, h5⟩ := he
      refine ⟨h1, h2, h3, h4, ?_⟩
      intro k d hk hne
      obtain ⟨sub, hs, he'⟩ := h5 k d hk hne
      exact ⟨sub, hs, ih (by omega) he'⟩

theorem Encodes.pos (h : Encodes n kvs ms) : ∃ m, n = m + 1 := by
  cases n with
  | zero => exact absurd h (by simp [Encodes])
  | succ m => exact ⟨m, rfl⟩

theorem Encodes.nodup (h : Encodes n kvs ms) : (ms.map Prod.fst).Nodup := by
  obtain ⟨m, rfl⟩ := h.pos; exact h.1

theorem Encodes.absent (h : Encodes n kvs ms) {k : String} (hk : lookup k kvs = none) : lookup k ms = none := by
  obtain ⟨m, rfl⟩ := h.pos; exact h.2.1 k hk

theorem Encodes.dset (h : Encodes n kvs ms) {k : String} {v : Val} (hk : lookup k kvs = some v) (hkm : k ≠ "metadata")
    (hv : ∀ d, v ≠ .dict d) : ∃ ds, h5Create v = some ds ∧ lookup k ms = some (.dset ds) := by
  obtain ⟨m, rfl⟩ := h.pos; exact h.2.2.1 k v hk hkm hv

theorem Encodes.no_meta (h : Encodes n kvs ms) (hm : ∀ kv ∈ kvs, kv.1 = "metadata" → kv.2 = .dict []) :
    lookup "metadata" ms = none := by
  obtain ⟨m, rfl⟩ := h.pos; exact h.2.2.2.1 hm

theorem Encodes.sub (h : Encodes n kvs ms) {k : String} {d : List (String × Val)} (hk : lookup k kvs = some (.dict d))
    (hne : ¬ (k = "metadata" ∧ d = [])) : ∃ sub m, lookup k ms = some (.group sub) ∧ Encodes m d sub := by
  obtain ⟨m, rfl⟩ := h.pos
  obtain ⟨sub, h1, h2⟩ := h.2.2.2.2 k d hk hne
  exact ⟨sub, m, h1, h2⟩

theorem Encodes.type (h : Encodes n kvs ms) {kind : String} (ht : lookup "type" kvs = some (.str kind)) :
    lookup "type" ms = some (.dset (.str kind)) := by
  obtain ⟨ds, hc, hl⟩ := h.dset ht (by decide) (fun d e => by cases e)
  simp only [h5Create] at hc
  split at hc <;> cases hc
  exact hl

end

/-- **`write_recursive` creates exactly the encoding of the dictionary it is given**, at every nesting depth. -/
theorem write_encodes : ∀ (fuel : Nat) (kvs : List (String × Val)) (items : List (String × H5)),
    writeRecursiveFuel fuel kvs [] = .ok items → Encodes (fuel + 1) kvs items := by
  intro fuel
  induction fuel using Nat.strongRecOn with
  | _ fuel ih =>
    intro kvs items h
    obtain ⟨hN, hQ, hC⟩ := write_inv h
    refine ⟨hN List.nodup_nil, ?_, ?_, ?_, ?_⟩
    · intro k hk
      exact hQ k (Or.inr fun v hv => absurd (List.mem_map_of_mem (f := Prod.fst) hv) ((lookup_eq_none_iff k kvs).mp hk))
    · intro k v hk _ hnd
      obtain ⟨f, item, _, hm, hi⟩ := hC k v hk (fun e => hnd [] e.2)
      obtain ⟨_, _, ⟨⟩⟩ | ⟨d, _, rfl, _⟩ | ⟨_, ds, hc, ⟨⟩⟩ := memberOf_ok hm
      · exact absurd rfl (hnd d)
      · exact ⟨ds, hc, hi⟩
    · intro hm
      exact hQ "metadata" (Or.inr fun v hv => ⟨rfl, hm _ hv rfl⟩)
    · intro k d hk hne
      obtain ⟨f, item, hlt, hm, hi⟩ := hC k (.dict d) hk (by simpa using hne)
      obtain ⟨_, _, ⟨⟩⟩ | ⟨d', sub, ⟨⟩, hw, ⟨⟩⟩ | ⟨hnd, _⟩ := memberOf_ok hm
      · exact ⟨sub, hi, (ih f hlt d sub hw).mono (by omega)⟩
      · exact absurd rfl (hnd d)

theorem hdf2dictItems_eq_map (items : List (String × H5)) :
    hdf2dict.hdf2dictItems items = items.map fun kv => (kv.1, hdf2dict kv.2) := by
  induction items with
  | nil => rfl
  | cons kv rest ih => rw [hdf2dict.hdf2dictItems, ih]; rfl

theorem hdf2dict_lookup (items : List (String × H5)) (k : String) :
    lookup k (hdf2dict.hdf2dictItems items) = (lookup k items).map hdf2dict := by
  rw [hdf2dictItems_eq_map, lookup_map_val fun _ => hdf2dict]

theorem hdf2dictItems_keys (items : List (String × H5)) :
    (hdf2dict.hdf2dictItems items).map Prod.fst = items.map Prod.fst := by
  rw [hdf2dictItems_eq_map, List.map_map]; rfl

/-- the value a reader hands to the constructor for a stored value -/
def backVal (v : Val) : Option Val := (h5Create v).map h5Load

theorem backVal_str {s : String} (h : (backVal (.str s)).isSome = true) : backVal (.str s) = some (.str s) := by
  simp only [backVal, h5Create] at h ⊢
  split
  · next hc => rw [if_pos hc] at h; cases h
  · rfl

def getPath : Val → List String → Option Val
  | v, [] => some v
  | .dict kvs, k :: rest => (lookup k kvs).bind (getPath · rest)
  | _, _ :: _ => none

theorem getPath_group (ms : List (String × H5)) (k : String) (rest : List String) :
    getPath (hdf2dict (.group ms)) (k :: rest) = (lookup k ms).bind fun x => getPath (hdf2dict x) rest := by
  simp only [hdf2dict, getPath, hdf2dict_lookup, Option.bind_map, Function.comp_def]

theorem Encodes.path {n : Nat} {kvs : List (String × Val)} {ms : List (String × H5)} (he : Encodes n kvs ms)
    (path : List String) (hlast : path.getLast? ≠ some "metadata")
    (v : Val) (hp : getPath (.dict kvs) path = some v) (hleaf : ∀ d, v ≠ .dict d) :
    ∃ ds, h5Create v = some ds ∧ getPath (hdf2dict (.group ms)) path = some (h5Load ds) := by
  induction path generalizing n kvs ms with
  | nil => cases hp; exact absurd rfl (hleaf kvs)
  | cons k rest ih =>
    rw [getPath_group]
    simp only [getPath] at hp
    cases hl : lookup k kvs with
    | none => simp [hl] at hp
    | some x =>
      simp only [hl, Option.bind_some] at hp
      cases rest with
      | nil =>
        cases hp
        obtain ⟨ds, hc, hlk⟩ := he.dset hl (fun e => hlast (by simp [e])) hleaf
        exact ⟨ds, hc, by rw [hlk]; rfl⟩
      | cons k2 rest2 =>
        cases x with
        | dict d =>
          obtain ⟨sub, m, hlk, hsub⟩ := he.sub hl (by rintro ⟨_, rfl⟩; simp [getPath, lookup] at hp)
          obtain ⟨ds, hc, hg⟩ := ih hsub (by simpa [List.getLast?_cons_cons] using hlast) hp
          exact ⟨ds, hc, by rw [hlk]; exact hg⟩
        | _ => simp [getPath] at hp

/-- **Round trip along any path**: a leaf value found at a path of keys in a dictionary
(any depth) is found at the same path in what the reader returns for the written group, as
`h5Load` of the dataset `h5Create` made of it. -/
theorem path_roundtrip (path : List String) : ∀ (fuel : Nat) (kvs : List (String × Val)) (items : List (String × H5)),
    writeRecursiveFuel fuel kvs [] = .ok items → path ≠ [] → path.getLast? ≠ some "metadata" →
    ∀ v, getPath (.dict kvs) path = some v → (∀ d, v ≠ .dict d) →
    ∃ ds, h5Create v = some ds ∧ getPath (hdf2dict (.group items)) path = some (h5Load ds) :=
  fun fuel kvs items h _ => (write_encodes fuel kvs items h).path path

/-! The dictionary of one node: `to_dict` appends `metadata` and `type` to the fields, and then `extra`: the `shape` of
Input / Output, the `input_type` of Flatten, nothing otherwise.  A graph's dictionary has this form too, with `nodes` and
`edges` for fields. -/

theorem leafDict_lookup (fields extra : List (String × Val)) (md : Val) (kind k : String) :
    lookup k (fields ++ ("metadata", md) :: ("type", .str kind) :: extra) = (lookup k fields).or
      (if k = "metadata" then some md else if k = "type" then some (.str kind) else lookup k extra) := by
  simp only [lookup_append, lookup_cons]

theorem leafDict_meta {fields extra : List (String × Val)} {md : Val} {kind : String}
    (hnm : lookup "metadata" fields = none) (hx : ∀ kv ∈ extra, kv.1 ≠ "metadata") :
    ∀ kv ∈ fields ++ ("metadata", md) :: ("type", .str kind) :: extra, kv.1 = "metadata" → kv.2 = md := by
  intro kv hm hkm
  simp only [List.mem_append, List.mem_cons] at hm
  rcases hm with hm | rfl | rfl | hm
  · exact absurd (hkm ▸ List.mem_map_of_mem (f := Prod.fst) hm) ((lookup_eq_none_iff _ _).mp hnm)
  · rfl
  · exact absurd hkm (by simp)
  · exact absurd hkm (hx kv hm)

theorem write_ok {version : String} {g : Node} {f : H5} (h : write version g = .ok f) :
    ∃ kvs node, toDict g = .ok (.dict kvs) ∧ writeRecursiveFuel (Val.size (.dict kvs) + 1) kvs [] = .ok node ∧
      f = .group [("node", .group node), ("version", .dset (.str version))] := by
  obtain ⟨d, hd, h⟩ := bind_ok h
  cases d with
  | dict kvs =>
    obtain ⟨node, hw, h⟩ := bind_ok h
    cases h
    exact ⟨kvs, node, hd, hw, rfl⟩
  | _ => cases h

theorem read_written (version : String) (node : List (String × H5)) :
    read (.group [("node", .group node), ("version", .dset (.str version))]) =
      fromDict (.dict (hdf2dict.hdf2dictItems node)) := by
  simp only [Model.read, h5Get, lookup_cons, if_true, bind, Except.bind, hdf2dict]

end NirVerif.Lemmas

namespace NirVerif.C01

open NirVerif NirVerif.Py NirVerif.Model NirVerif.Lemmas

/-- `Back n d d'`: the dictionary `d'` is what a reader gets back for the dictionary `d` — same keys (an empty nested
`metadata` apart, which the file cannot carry), every plain value transported (`backVal`), every nested dictionary
related in the same way, nothing added. -/
def Back : Nat → List (String × Val) → List (String × Val) → Prop
  | 0, _, _ => False
  | n + 1, d, d' =>
    (d'.map Prod.fst).Nodup ∧
    (∀ k, lookup k d = none → lookup k d' = none) ∧
    (∀ k v, lookup k d = some v → k ≠ "metadata" → (∀ s, v ≠ .dict s) → lookup k d' = backVal v ∧ (backVal v).isSome) ∧
    ((∀ kv ∈ d, kv.1 = "metadata" → kv.2 = .dict []) → lookup "metadata" d' = none) ∧
    (∀ k s, lookup k d = some (.dict s) → ¬ (k = "metadata" ∧ s = []) →
        ∃ s', lookup k d' = some (.dict s') ∧ Back n s s')

theorem back_of_encodes : ∀ (n : Nat) (d : List (String × Val)) (ms : List (String × H5)),
    Encodes n d ms → Back n d (hdf2dict.hdf2dictItems ms) := by
  intro n
  induction n with
  | zero => intro d ms h; exact absurd h (by simp [Encodes])
  | succ n ih =>
    intro d ms h
    obtain ⟨h1, h2, h3, h4, h5⟩ := h
    refine ⟨by rw [hdf2dictItems_keys]; exact h1, ?_, ?_, ?_, ?_⟩
    · intro k hk
      rw [hdf2dict_lookup, h2 k hk]; rfl
    · intro k v hk hkm hnd
      obtain ⟨ds, hc, hl⟩ := h3 k v hk hkm hnd
      rw [hdf2dict_lookup, hl]
      simp [backVal, hc, hdf2dict]
    · intro hm
      rw [hdf2dict_lookup, h4 hm]; rfl
    · intro k s hk hne
      obtain ⟨sub, hl, he⟩ := h5 k s hk hne
      refine ⟨hdf2dict.hdf2dictItems sub, ?_, ih s sub he⟩
      rw [hdf2dict_lookup, hl]
      simp [hdf2dict]

variable {n : Nat} {d D : List (String × Val)}

theorem Back.pos (h : Back n d D) : ∃ m, n = m + 1 := by
  cases n with
  | zero => exact absurd h (by simp [Back])
  | succ m => exact ⟨m, rfl⟩

theorem Back.nodup (h : Back n d D) : (D.map Prod.fst).Nodup := by
  obtain ⟨m, rfl⟩ := h.pos; exact h.1

theorem Back.absent (h : Back n d D) {k : String} (hk : lookup k d = none) : lookup k D = none := by
  obtain ⟨m, rfl⟩ := h.pos; exact h.2.1 k hk

theorem Back.leaf (h : Back n d D) {k : String} {v : Val} (hk : lookup k d = some v) (hkm : k ≠ "metadata")
    (hv : ∀ s, v ≠ .dict s) : lookup k D = backVal v ∧ (backVal v).isSome := by
  obtain ⟨m, rfl⟩ := h.pos; exact h.2.2.1 k v hk hkm hv

theorem Back.no_meta (h : Back n d D) (hm : ∀ kv ∈ d, kv.1 = "metadata" → kv.2 = .dict []) :
    lookup "metadata" D = none := by
  obtain ⟨m, rfl⟩ := h.pos; exact h.2.2.2.1 hm

theorem Back.sub (h : Back n d D) {k : String} {s : List (String × Val)} (hk : lookup k d = some (.dict s))
    (hne : ¬ (k = "metadata" ∧ s = [])) : ∃ s' m, lookup k D = some (.dict s') ∧ Back m s s' := by
  obtain ⟨m, rfl⟩ := h.pos
  obtain ⟨s', h1, h2⟩ := h.2.2.2.2 k s hk hne
  exact ⟨s', m, h1, h2⟩

theorem Back.type (h : Back n d D) {kind : String} (ht : lookup "type" d = some (.str kind)) :
    lookup "type" D = some (.str kind) := by
  obtain ⟨h1, h2⟩ := h.leaf ht (by decide) (fun s e => by cases e)
  rw [h1, backVal_str h2]

theorem Back.plain (h : Back n d D) {k : String} (hk : k ≠ "metadata") (hv : ∀ v, lookup k d = some v → ∀ s, v ≠ .dict s) :
    lookup k D = (lookup k d).bind backVal := by
  cases hl : lookup k d with
  | none => exact h.absent hl
  | some v => exact (h.leaf hl hk (hv v hl)).1

theorem back_of_write {fuel : Nat} {kvs : List (String × Val)} {items : List (String × H5)}
    (h : writeRecursiveFuel fuel kvs [] = .ok items) : Back (fuel + 1) kvs (hdf2dict.hdf2dictItems items) :=
  back_of_encodes _ _ _ (write_encodes fuel kvs items h)

end NirVerif.C01
