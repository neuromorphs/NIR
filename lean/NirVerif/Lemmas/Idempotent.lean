import NirVerif.Lemmas.Construct
import NirVerif.Generated.Whitelist
/-
  A node built by a constructor is what that constructor builds from the node's own fields:
  `cls(**fields_of(n), metadata=n.metadata) == n`.

  The argument has two halves.  Binding: a list `f` with exactly the field table's keys whose derived-type entries are
  at their defaults (`Bound`) is what binding its own plain part plus its metadata returns (`Bound.rebind`).
  `postInit`: the parameter-storing classes keep `plainOf f` as their fields (`postInit_ok`); Conv2d keeps `plainOf g` for
  the `g` that holds padding / stride / dilation in paired form, on which it computes what it computes on `f`.
-/
namespace NirVerif.Lemmas
open NirVerif NirVerif.Py NirVerif.Model

/-- `f` lists exactly the fields of `spec`, in order, the derived-type fields (where the class has them) at their
defaults: what binding a call that does not pass the types explicitly returns -/
structure Bound (spec : List (String × Option Val)) (f : List (String × Val)) : Prop where
  keys : f.map Prod.fst = spec.map Prod.fst
  derived : ∀ p ∈ spec, p.1 = "input_type" ∨ p.1 = "output_type" → lookup p.1 f = p.2

theorem bound_of_bindKwargs {kw : List (String × Val)} {spec : List (String × Option Val)} {f : List (String × Val)}
    (h : bindKwargs spec kw = .ok f) (hn : (spec.map Prod.fst).Nodup)
    (hnot : ∀ p ∈ spec, p.1 = "input_type" ∨ p.1 = "output_type" → lookup p.1 kw = none) : Bound spec f := by
  obtain ⟨-, hkeys, hl⟩ := (bindKwargs_eq_ok hn).mp h
  exact ⟨hkeys, fun p hp hd => by rw [hl p hp, hnot p hp hd, Option.none_or]⟩

theorem Bound.insert {spec : List (String × Option Val)} {f : List (String × Val)} (hb : Bound spec f)
    (k : String) (v : Val) (hk : isPlainKey k = true) (hs : k ∈ spec.map Prod.fst) : Bound spec (Py.insert k v f) := by
  obtain ⟨v0, hl⟩ := Option.isSome_iff_exists.mp ((lookup_isSome_iff_mem k f).mpr (hb.keys ▸ hs))
  exact ⟨by rw [map_fst_insert_of_lookup k v v0 f hl]; exact hb.keys, fun p hp hd => by
    rw [lookup_insert_ne _ _ _ _ (fun e => by rw [e] at hd; rcases hd with rfl | rfl <;> cases hk)]
    exact hb.derived p hp hd⟩

theorem Bound.rebind {spec : List (String × Option Val)} {f : List (String × Val)} (hb : Bound spec f)
    (hn : (spec.map Prod.fst).Nodup) (hmeta : hasKey "metadata" spec = true) :
    bindKwargs spec (plainOf f ++ [("metadata", (lookup "metadata" f).getD (.dict []))]) = .ok f := by
  refine (bindKwargs_eq_ok hn).mpr ⟨fun kv hkv => ?_, hb.keys, fun p hp => ?_⟩
  · rcases List.mem_append.mp hkv with h | h
    · exact hb.keys ▸ List.mem_map_of_mem (List.mem_filter.mp h).1
    · rw [List.mem_singleton.mp h]; exact (lookup_isSome_iff_mem _ _).mp hmeta
  · -- a plain field and the metadata are passed as they stand in `f`, a derived type is left to its default
    obtain ⟨v, hv⟩ := Option.isSome_iff_exists.mp ((lookup_isSome_iff_mem p.1 f).mpr (hb.keys ▸ List.mem_map_of_mem hp))
    rw [lookup_append, plainOf, lookup_filter_key isPlainKey, lookup_cons, lookup_nil]
    by_cases hpl : isPlainKey p.1 = true
    · rw [if_pos hpl, hv]; rfl
    · by_cases hm : p.1 = "metadata"
      · rw [if_neg hpl, if_pos hm, ← hm, hv]; rfl
      · have hd : p.1 = "input_type" ∨ p.1 = "output_type" :=
          Decidable.or_iff_not_imp_left.mpr (by simpa [isPlainKey, hm] using hpl)
        rw [if_neg hpl, if_neg hm, hb.derived p hp hd]; rfl

theorem rebind (kw : List (String × Val)) (spec : List (String × Option Val)) (f : List (String × Val))
    (h : bindKwargs spec kw = .ok f) (hn : (spec.map Prod.fst).Nodup)
    (hmeta : hasKey "metadata" spec = true)
    (hnot : lookup "input_type" kw = none ∧ lookup "output_type" kw = none) :
    bindKwargs spec (plainOf f ++ [("metadata", (lookup "metadata" f).getD (.dict []))]) = .ok f :=
  (bound_of_bindKwargs h hn fun _ _ hd => hd.elim (· ▸ hnot.1) (· ▸ hnot.2)).rebind hn hmeta

theorem spec_facts : ∀ ks ∈ Generated.classFields, (ks.2.map Prod.fst).Nodup ∧ hasKey "metadata" ks.2 = true := by
  decide +kernel

theorem spec_facts2 : ∀ ks ∈ Generated.classFields, hasKey "type" ks.2 = false ∧
    isEmptyDictDefault (lookup "metadata" ks.2) = true := by
  decide +kernel

/-- a leaf of one of the classes with the generic dictionary form that its own constructor reproduces from its fields
and metadata — what the dictionary and the file round trips of a constructor-built node rest on -/
structure SelfBuilt (n : Node) : Prop where
  generic : n.kind ∈ Generated.whitelist ∧
    n.kind ≠ "NIRGraph" ∧ n.kind ≠ "Input" ∧ n.kind ≠ "Output" ∧ n.kind ≠ "Flatten"
  leaf : n.children = [] ∧ n.edges = []
  clean : lookup "type" n.fields = none ∧ lookup "metadata" n.fields = none
  idem : construct n.kind (n.fields ++ [("metadata", n.metadata)]) = .ok n

theorem selfBuilt_of_bound {kind : String} {spec : List (String × Option Val)} {f : List (String × Val)} {n : Node}
    (hspec : lookup kind Generated.classFields = some spec) (hb : Bound spec f)
    (hp : postInit kind f = .ok n) (hf : n.fields = plainOf f)
    (hg : kind ∈ Generated.whitelist ∧ kind ≠ "NIRGraph" ∧ kind ≠ "Input" ∧ kind ≠ "Output" ∧ kind ≠ "Flatten") :
    SelfBuilt n := by
  obtain ⟨hn, hm⟩ := spec_facts (kind, spec) (mem_of_lookup _ _ _ hspec)
  have ht : hasKey "type" spec = false := (spec_facts2 (kind, spec) (mem_of_lookup _ _ _ hspec)).1
  obtain ⟨fields, io, rfl, _⟩ := postInit_ok hp
  cases (show fields = plainOf f from hf)
  refine ⟨hg, ⟨rfl, rfl⟩, ⟨?_, (lookup_filter_key isPlainKey "metadata" f).trans rfl⟩, ?_⟩
  · refine (lookup_filter_key isPlainKey "type" f).trans ((if_pos rfl).trans (lookup_eq_none_of_not_mem "type" f ?_))
    rw [hb.keys, ← lookup_isSome_iff_mem]
    simpa [hasKey] using ht
  · exact (construct_eq hspec _).trans ((congrArg (· >>= postInit kind) (hb.rebind hn hm)).trans hp)

theorem simple_generic : ∀ k ∈ simpleKinds, k ∈ Generated.whitelist ∧
    k ≠ "NIRGraph" ∧ k ≠ "Input" ∧ k ≠ "Output" ∧ k ≠ "Flatten" := by decide +kernel

theorem selfBuilt_simple {kind : String} {kw : List (String × Val)} {n : Node} (hk : kind ∈ simpleKinds)
    (h : construct kind kw = .ok n)
    (hnot : lookup "input_type" kw = none ∧ lookup "output_type" kw = none) : SelfBuilt n := by
  obtain ⟨spec, f, hspec, hb, hp⟩ := construct_ok h
  obtain ⟨hn, -⟩ := spec_facts (kind, spec) (mem_of_lookup _ _ _ hspec)
  obtain ⟨fields, io, rfl, hf⟩ := postInit_ok hp
  exact selfBuilt_of_bound hspec (bound_of_bindKwargs hb hn fun _ _ hd => hd.elim (· ▸ hnot.1) (· ▸ hnot.2))
    hp (hf (List.mem_cons_of_mem _ hk)) (simple_generic kind hk)

theorem construct_idem (kind : String) (kw : List (String × Val)) (n : Node) (hk : kind ∈ simpleKinds)
    (h : construct kind kw = .ok n)
    (hnot : lookup "input_type" kw = none ∧ lookup "output_type" kw = none) :
    construct kind (n.fields ++ [("metadata", n.metadata)]) = .ok n :=
  (construct_kind kind kw n h).1 ▸ (selfBuilt_simple hk h hnot).idem

theorem construct_meta_default (kind : String) (fields : List (String × Val)) (hnm : lookup "metadata" fields = none) :
    construct kind (fields ++ [("metadata", Val.dict [])]) = construct kind fields := by
  cases hspec : lookup kind Generated.classFields with
  | none => simp only [construct, hspec]
  | some spec =>
    obtain ⟨hn, hm⟩ := spec_facts (kind, spec) (mem_of_lookup _ _ _ hspec)
    have hd := isEmptyDictDefault_iff.mp (spec_facts2 (kind, spec) (mem_of_lookup _ _ _ hspec)).2
    have e : bindKwargs spec (fields ++ [("metadata", Val.dict [])]) = bindKwargs spec fields := by
      simp only [bindKwargs, List.any_append, List.any_cons, List.any_nil, hm, Bool.not_true, Bool.or_false]
      rw [bindAll_congr _ fields spec fun p hp => ?_]
      rw [bindOne_eq, bindOne_eq, lookup_append, lookup_cons, lookup_nil]
      by_cases hk : p.1 = "metadata"
      · -- the default of `metadata` is the empty dictionary
        have : some p.2 = some (some (.dict [])) := hd ▸ hk ▸ (lookup_of_mem_nodup spec hn p.1 p.2 hp).symm
        rw [hk, hnm, Option.some.inj this]; rfl
      · rw [if_neg hk, Option.or_none]
    rw [construct_eq hspec, construct_eq hspec, e]

/-! ## Conv2d: integer stride / padding / dilation are normalised to pairs; on the stored pairs the constructor is the identity -/

theorem pairInt_idem (v : Val) : pairInt (pairInt v) = pairInt v := by
  unfold pairInt
  cases v <;> simp [isPyInt]

theorem convPaddingCheck_pair (v : Val) : convPaddingCheck (pairInt v) = convPaddingCheck v := by
  unfold pairInt
  cases v <;> simp [isPyInt, convPaddingCheck]

theorem postInit_conv2d_fields {f : List (String × Val)} {n : Node} (h : postInit "Conv2d" f = .ok n) :
    ∃ p s d, lookup "padding" f = some p ∧ lookup "stride" f = some s ∧ lookup "dilation" f = some d ∧
      n.fields = conv2dFields f (pairInt p) (pairInt s) (pairInt d) := by
  rw [postInit_conv2d, conv2dInit] at h
  obtain ⟨p, hp, h⟩ := bind_ok h
  obtain ⟨_, -, h⟩ := bind_ok h
  obtain ⟨s, hs, h⟩ := bind_ok h
  obtain ⟨d, hd, h⟩ := bind_ok h
  refine ⟨p, s, d, arg_eq_ok.mp hp, arg_eq_ok.mp hs, arg_eq_ok.mp hd, ?_⟩
  -- whatever the types come to, every return site stores these fields
  simp only [bind, Except.bind, pure, Except.pure] at h
  repeat' split at h
  all_goals first | (cases h; rfl) | cases h

def conv2dSpec : List (String × Option Val) := (lookup "Conv2d" Generated.classFields).getD []

theorem conv2dFields_eq (f : List (String × Val)) (p s d : Val) :
    conv2dFields f p s d = plainOf (Py.insert "dilation" d (Py.insert "stride" s (Py.insert "padding" p f))) := by
  rw [plainOf, filter_insert isPlainKey "dilation", filter_insert isPlainKey "stride", filter_insert isPlainKey "padding"]
  rfl

theorem selfBuilt_conv2d {kw : List (String × Val)} {n : Node} (h : construct "Conv2d" kw = .ok n) : SelfBuilt n := by
  obtain ⟨spec, f, hspec, hb, hp⟩ := construct_ok h
  cases (show some conv2dSpec = some spec from hspec)
  have hbound : Bound conv2dSpec f := bound_of_bindKwargs hb (by decide) fun p hp hd => absurd hd (by revert p; decide)
  obtain ⟨p, s, d, hlp, hls, hld, hf⟩ := postInit_conv2d_fields hp
  -- `g`: the bound list with the three arguments in paired form; the node's fields are its plain part, and on `g` the
  -- constructor reads, pairs and stores what it did on `f`
  have hgb := ((hbound.insert "padding" (pairInt p) rfl (by decide)).insert "stride" (pairInt s) rfl (by decide)).insert
    "dilation" (pairInt d) rfl (by decide)
  have hpl := (conv2dFields_eq f (pairInt p) (pairInt s) (pairInt d)).symm
  generalize hg : Py.insert "dilation" (pairInt d) (Py.insert "stride" (pairInt s) (Py.insert "padding" (pairInt p) f)) = g
    at hgb hpl
  have hlk : ∀ k, lookup k g = if k = "dilation" then some (pairInt d) else if k = "stride" then some (pairInt s)
      else if k = "padding" then some (pairInt p) else lookup k f := fun k => by
    rw [← hg, lookup_insert_eq, lookup_insert_eq, lookup_insert_eq]
  have hfields : conv2dFields g (pairInt p) (pairInt s) (pairInt d) = plainOf g := by
    rw [conv2dFields_eq, insert_of_lookup "padding" _ g (by simp [hlk]), insert_of_lookup "stride" _ g (by simp [hlk]),
      insert_of_lookup "dilation" _ g (by simp [hlk])]
  have hpost : postInit "Conv2d" g = postInit "Conv2d" f := by
    simp only [postInit_conv2d, conv2dInit, arg, hlk, String.reduceEq, ↓reduceIte, hlp, hls, hld, pairInt_idem,
      convPaddingCheck_pair, hfields, hpl, leafNode, bind, Except.bind, pure, Except.pure]
  exact selfBuilt_of_bound hspec hgb (hpost ▸ hp) (hf.trans hpl.symm) (by decide)

theorem construct_idem_conv2d (kw : List (String × Val)) (n : Node)
    (h : construct "Conv2d" kw = .ok n) :
    construct "Conv2d" (n.fields ++ [("metadata", n.metadata)]) = .ok n :=
  (construct_kind "Conv2d" kw n h).1 ▸ (selfBuilt_conv2d h).idem

end NirVerif.Lemmas
