import NirVerif.Lemmas.Step
import NirVerif.Lemmas.ConvReading
/-
  The loop body on typed nodes: what `stepNode` returns when the predecessor carries a defined output shape and the
  successor is an Output, an annotated node, or a Flatten / Conv / pooling node whose types were erased.  The first
  lemmas hold for single ports of any name; recomputing erased types reads the ports `input` / `output` by name, so the
  second section fixes those names (`HasTypesK`).
-/
namespace NirVerif.Lemmas
open NirVerif NirVerif.Py NirVerif.Model

theorem inferInput_single {pre post : Node} {ko ki : String} {vo vi : Val} {a b : Option (List Int)}
    (hpo : pre.outputType = .dict [(ko, vo)]) (hpi : post.inputType = .dict [(ki, vi)])
    (hco : shapeContent vo = .ok a) (hci : shapeContent vi = .ok b) :
    inferInput pre post = .ok (if typeUndefined (.dict [(ki, vi)]) || !(a == b) then
      post.setInputType (.dict [(pyReplace ko "output" "input", vo)]) else post) := by
  have hn : needsInput pre post = .ok (typeUndefined (.dict [(ki, vi)]) || !(a == b)) := by
    simp [needsInput, hpo, hpi, typeLen, singleValue, shapeEq, hco, hci, bind, Except.bind, pure, Except.pure]
  simp only [inferInput, hn, hpo, renameKeys_single]
  cases typeUndefined (.dict [(ki, vi)]) || !(a == b) <;> rfl

theorem inferInput_shape {pre post : Node} {ko ki : String} {vo vi : Val} {s : List Int}
    (hpo : pre.outputType = .dict [(ko, vo)]) (hso : Spec.shapeOfVal vo = some s)
    (hpi : post.inputType = .dict [(ki, vi)]) (hvi : PortVal vi) :
    ∃ k v, inferInput pre post = .ok (post.setInputType (.dict [(k, v)])) ∧ Spec.shapeOfVal v = some s ∧
      ((k = pyReplace ko "output" "input" ∧ v = vo) ∨ (k = ki ∧ v = vi)) := by
  rw [inferInput_single hpo hpi (shapeContent_of_some hso) (portVal_content hvi ki).1, (portVal_content hvi ki).2]
  rcases hsi : Spec.shapeOfVal vi with _ | si
  · exact ⟨_, vo, rfl, hso, Or.inl ⟨rfl, rfl⟩⟩
  · by_cases heq : s = si
    · subst heq
      exact ⟨ki, vi, by simp [← hpi, Node.eta], hsi, Or.inr ⟨rfl, rfl⟩⟩
    · exact ⟨_, vo, by simp [heq], hso, Or.inl ⟨rfl, rfl⟩⟩

theorem stepNode_output {pre post : Node} {ko ki : String} {vo vi : Val} {s : List Int}
    (hk : post.kind = "Output")
    (hpo : pre.outputType = .dict [(ko, vo)]) (hso : Spec.shapeOfVal vo = some s)
    (hpi : post.inputType = .dict [(ki, vi)]) (hvi : PortVal vi) :
    (stepNode pre post).2 = none ∧ Spec.portShape (stepNode pre post).1.inputType = some s ∧
      Spec.portShape (stepNode pre post).1.outputType = some s := by
  obtain ⟨k, v, h1, hv, _⟩ := inferInput_shape hpo hso hpi hvi
  rw [stepNode_output_eq hk h1]
  simp [Spec.portShape, hv]

theorem stepNode_annotated (pre post : Node) (ko ki : String) (vo vi : Val) (s : List Int)
    (hk : post.kind ≠ "Output") (hout : typeUndefined post.outputType = false)
    (hpo : pre.outputType = .dict [(ko, vo)]) (hso : Spec.shapeOfVal vo = some s)
    (hpi : post.inputType = .dict [(ki, vi)]) (hvi : PortVal vi) :
    (stepNode pre post).2 = none ∧ Spec.portShape (stepNode pre post).1.inputType = some s ∧
      (stepNode pre post).1.outputType = post.outputType := by
  obtain ⟨k, v, h1, hv, _⟩ := inferInput_shape hpo hso hpi hvi
  rw [stepNode_annotated_eq hk hout h1]
  simp [Spec.portShape, hv]

/-! ## the port names `input` / `output`: erased Flatten, Conv and pooling types are recomputed -/


theorem replace_output : pyReplace "output" "output" "input" = "input" := by decide +kernel

theorem replace_input : pyReplace "input" "input" "output" = "output" := by decide +kernel

theorem inferInput_keyed {pre post : Node} {vo vi : Val} {s : List Int}
    (hpo : pre.outputType = typeDict "output" vo) (hso : Spec.shapeOfVal vo = some s)
    (hpi : post.inputType = typeDict "input" vi) (hvi : PortVal vi) (hwo : WFShape vo) (hwi : WFShape vi) :
    ∃ v, inferInput pre post = .ok (post.setInputType (typeDict "input" v)) ∧
      Spec.shapeOfVal v = some s ∧ WFShape v := by
  obtain ⟨k, v, h1, hv, ⟨rfl, rfl⟩ | ⟨rfl, rfl⟩⟩ := inferInput_shape hpo hso hpi hvi
  · exact ⟨v, by rw [h1, replace_output]; rfl, hv, hwo⟩
  · exact ⟨v, h1, hv, hwi⟩

/-- keyed form of the node typing: the standard port names and defined shapes -/
def HasTypesK (n : Node) (t : List Int × List Int) : Prop :=
  (∃ vi, n.inputType = typeDict "input" vi ∧ Spec.shapeOfVal vi = some t.1 ∧ WFShape vi) ∧
  (∃ vo, n.outputType = typeDict "output" vo ∧ Spec.shapeOfVal vo = some t.2 ∧ WFShape vo)

theorem hasTypesK_ofInts {n : Node} {a b : List Int} (hi : n.inputType = typeDict "input" (Val.ofInts a))
    (ho : n.outputType = typeDict "output" (Val.ofInts b)) (ha : FitsI64 a) (hb : FitsI64 b) : HasTypesK n (a, b) :=
  ⟨⟨_, hi, shapeOfVal_ofInts ha, wf_ofInts a⟩, ⟨_, ho, shapeOfVal_ofInts hb, wf_ofInts b⟩⟩

theorem typeUndefined_none (k : String) : typeUndefined (typeDict k .none) = true := rfl

theorem stepNode_flatten (pre post : Node) (vo vi : Val) (s : List Int) (sd ed : Int)
    (hk : post.kind = "Flatten") (hout : post.outputType = typeDict "output" .none)
    (hsd : (post.field? "start_dim").bind Val.asInt? = some sd) (hed : (post.field? "end_dim").bind Val.asInt? = some ed)
    (hpo : pre.outputType = typeDict "output" vo) (hso : Spec.shapeOfVal vo = some s) (hne : s ≠ [])
    (hpi : post.inputType = typeDict "input" vi) (hvi : PortVal vi) (hwo : WFShape vo) (hwi : WFShape vi)
    (hcount : Py.prod s = Py.prod (calcFlattenOutput s sd ed)) (hfit : FitsI64 (calcFlattenOutput s sd ed)) :
    (stepNode pre post).2 = none ∧ HasTypesK (stepNode pre post).1 (s, calcFlattenOutput s sd ed) := by
  obtain ⟨v, h1, hv, hwv⟩ := inferInput_keyed hpo hso hpi hvi hwo hwi
  rw [stepNode_erased_eq (by rw [hk]; decide) h1,
    inferOutput_flatten pre (by simp [hout, typeUndefined_none]) (by simpa using hk),
    inferFlatten_eq (v := v) (by simp) (shapeInts_of_some hv hne) (by simpa [Node.field?] using hsd) (by simpa [Node.field?] using hed) hcount]
  exact ⟨rfl, ⟨v, by simp, hv, hwv⟩, ⟨_, by simp, shapeOfVal_flattenArray v hfit, wf_flattenArray _ hwv hv⟩⟩

theorem stepNode_outputK (pre post : Node) (vo vi : Val) (s : List Int)
    (hk : post.kind = "Output")
    (hpo : pre.outputType = typeDict "output" vo) (hso : Spec.shapeOfVal vo = some s)
    (hpi : post.inputType = typeDict "input" vi) (hvi : PortVal vi) (hwo : WFShape vo) (hwi : WFShape vi) :
    (stepNode pre post).2 = none ∧ HasTypesK (stepNode pre post).1 (s, s) := by
  obtain ⟨v, h1, hv, hwv⟩ := inferInput_keyed hpo hso hpi hvi hwo hwi
  rw [stepNode_output_eq hk h1, replace_input]
  exact ⟨rfl, ⟨v, by simp [typeDict], hv, hwv⟩, ⟨v, by simp [typeDict], hv, hwv⟩⟩

theorem stepNode_annotatedK (pre post : Node) (vo vi w : Val) (s t2 : List Int)
    (hk : post.kind ≠ "Output") (hout : post.outputType = typeDict "output" w) (hw : Spec.shapeOfVal w = some t2)
    (hww : WFShape w)
    (hpo : pre.outputType = typeDict "output" vo) (hso : Spec.shapeOfVal vo = some s)
    (hpi : post.inputType = typeDict "input" vi) (hvi : PortVal vi) (hwo : WFShape vo) (hwi : WFShape vi) :
    (stepNode pre post).2 = none ∧ HasTypesK (stepNode pre post).1 (s, t2) := by
  obtain ⟨v, h1, hv, hwv⟩ := inferInput_keyed hpo hso hpi hvi hwo hwi
  rw [stepNode_annotated_eq hk (by rw [hout]; exact typeUndefined_of_shape hw) h1]
  exact ⟨rfl, ⟨v, by simp, hv, hwv⟩, ⟨w, by simpa using hout, hw, hww⟩⟩

theorem stepNode_conv {pre post : Node} {v ishape w : Val} {s outs : List Int} {wsh : List Nat}
    (hk : post.kind = "Conv1d" ∨ post.kind = "Conv2d") (hout : post.outputType = typeDict "output" .none)
    (h1 : inferInput pre post = .ok (post.setInputType (typeDict "input" v)))
    (hv : Spec.shapeOfVal v = some s) (hwv : WFShape v)
    (his : convInputShape (post.setInputType (typeDict "input" v)) = .ok ishape)
    (hw : post.field? "weight" = some w) (hwsh : getShape w = .ok wsh) (hrank : 1 ≤ wsh.length)
    (hcalc : calculateConvOutput ishape ((post.field? "padding").getD .none)
      ((post.field? "dilation").getD .none) (kernelOf wsh) ((post.field? "stride").getD .none) = .ok outs)
    (hfit : FitsI64 (Int.ofNat (wsh.getD 0 0) :: outs)) :
    (stepNode pre post).2 = none ∧ HasTypesK (stepNode pre post).1 (s, Int.ofNat (wsh.getD 0 0) :: outs) := by
  rw [stepNode_erased_eq (by rcases hk with hk | hk <;> rw [hk] <;> decide) h1,
    inferOutput_conv pre (by simp [hout, typeUndefined_none]) (by simpa using hk),
    inferConv_eq his (by simpa [Node.field?] using hw) hwsh hrank (by simpa [Node.field?] using hcalc)]
  exact ⟨rfl, ⟨v, by simp, hv, hwv⟩, ⟨_, by simp, shapeOfVal_shapeArray hfit, wf_shapeArray _⟩⟩

theorem stepNode_conv2d (pre post : Node) (vo vi w : Val) (c : Int) (spatial outs : List Int) (wsh : List Nat)
    (hk : post.kind = "Conv2d") (hout : post.outputType = typeDict "output" .none)
    (hw : post.field? "weight" = some w) (hwsh : getShape w = .ok wsh) (hrank : 1 ≤ wsh.length)
    (hpo : pre.outputType = typeDict "output" vo) (hso : Spec.shapeOfVal vo = some (c :: spatial))
    (hpi : post.inputType = typeDict "input" vi) (hvi : PortVal vi) (hwo : WFShape vo) (hwi : WFShape vi)
    (hcalc : calculateConvOutput (.tuple (spatial.map Val.int)) ((post.field? "padding").getD .none)
      ((post.field? "dilation").getD .none) (kernelOf wsh) ((post.field? "stride").getD .none) = .ok outs)
    (hfit : FitsI64 (Int.ofNat (wsh.getD 0 0) :: outs)) :
    (stepNode pre post).2 = none ∧
      HasTypesK (stepNode pre post).1 (c :: spatial, Int.ofNat (wsh.getD 0 0) :: outs) := by
  obtain ⟨v, h1, hv, hwv⟩ := inferInput_keyed hpo hso hpi hvi hwo hwi
  obtain ⟨ys, hys, hread⟩ := tupleOfTail_reading hv
  refine stepNode_conv (Or.inr hk) hout h1 hv hwv (ishape := .tuple ys)
    (by simp [convInputShape, hk, getItem_typeDict, hys, bind, Except.bind]) hw hwsh hrank ?_ hfit
  rw [calculateConvOutput_reading _ _ spatial (reading_tuple hread) (reading_ints spatial), hcalc]

theorem stepNode_conv1d {pre post : Node} {vo vi w : Val} {c n1 : Int} {outs : List Int} {wsh : List Nat}
    (hk : post.kind = "Conv1d") (hout : post.outputType = typeDict "output" .none)
    (hw : post.field? "weight" = some w) (hwsh : getShape w = .ok wsh) (hrank : 1 ≤ wsh.length)
    (hpo : pre.outputType = typeDict "output" vo) (hso : Spec.shapeOfVal vo = some [c, n1])
    (hpi : post.inputType = typeDict "input" vi) (hvi : PortVal vi) (hwo : WFShape vo) (hwi : WFShape vi)
    (hcalc : calculateConvOutput (.int n1) ((post.field? "padding").getD .none)
      ((post.field? "dilation").getD .none) (kernelOf wsh) ((post.field? "stride").getD .none) = .ok outs)
    (hfit : FitsI64 (Int.ofNat (wsh.getD 0 0) :: outs)) :
    (stepNode pre post).2 = none ∧
      HasTypesK (stepNode pre post).1 ([c, n1], Int.ofNat (wsh.getD 0 0) :: outs) := by
  obtain ⟨v, h1, hv, hwv⟩ := inferInput_keyed hpo hso hpi hvi hwo hwi
  obtain ⟨x, hx, hread, -⟩ := shapeIndex_reading hv hwv 1 (by simp)
  refine stepNode_conv (Or.inl hk) hout h1 hv hwv (ishape := x)
    (by simp [convInputShape, hk, getItem_typeDict, hx, bind, Except.bind]) hw hwsh hrank ?_ hfit
  rw [calculateConvOutput_scalar x (.int n1) n1 hread rfl, hcalc]

theorem inferPool_eq {pre p : Node} {vo v y x : Val} {c o : Int} {os : List Int}
    (hpo : pre.outputType = typeDict "output" vo) (hpi : p.inputType = typeDict "input" v)
    (hy : shapeTail vo = .ok y) (hx : shapeIndex v 0 = .ok x) (hxc : Val.asInt? x = some c) (hxu : NoUnsigned x)
    (hcalc : calculateConvOutput y ((p.field? "padding").getD .none) (.int 1) ((p.field? "kernel_size").getD .none)
      ((p.field? "stride").getD .none) = .ok (o :: os)) :
    inferPool pre p = (p.setOutputType (typeDict "output" (shapeArray (c :: o :: os))), none) := by
  simp [inferPool, poolOutputType, hpo, hpi, getItem_typeDict, hy, hx, hxc, hcalc, poolArray_cons hxu, bind,
    Except.bind, pure, Except.pure]

/-- a pooling node's types are never serialised, so after every read this is the case it is in -/
theorem stepNode_pool (pre post : Node) (vo vi : Val) (c : Int) (spatial outs : List Int)
    (hk : post.kind = "SumPool2d" ∨ post.kind = "AvgPool2d") (hout : post.outputType = typeDict "output" .none)
    (hpo : pre.outputType = typeDict "output" vo) (hso : Spec.shapeOfVal vo = some (c :: spatial))
    (hpi : post.inputType = typeDict "input" vi) (hvi : PortVal vi) (hwo : WFShape vo) (hwi : WFShape vi)
    (hcalc : calculateConvOutput (.tuple (spatial.map Val.int)) ((post.field? "padding").getD .none)
      (.int 1) ((post.field? "kernel_size").getD .none) ((post.field? "stride").getD .none) = .ok outs)
    (hne : outs ≠ []) (hfit : FitsI64 (c :: outs)) :
    (stepNode pre post).2 = none ∧ HasTypesK (stepNode pre post).1 (c :: spatial, c :: outs) := by
  obtain ⟨v, h1, hv, hwv⟩ := inferInput_keyed hpo hso hpi hvi hwo hwi
  obtain ⟨y, hy, hread⟩ := shapeTail_reading hso hwo
  obtain ⟨x, hx, hxc, hxu⟩ := shapeIndex_reading hv hwv 0 (by simp)
  obtain ⟨o1, orest, rfl⟩ := List.exists_cons_of_ne_nil hne
  rw [← calculateConvOutput_reading y _ spatial hread (reading_ints spatial)] at hcalc
  rw [stepNode_erased_eq (by rcases hk with hk | hk <;> rw [hk] <;> decide) h1,
    inferOutput_pool pre (by simp [hout, typeUndefined_none]) (by simpa using hk),
    inferPool_eq hpo (by simp) hy hx hxc hxu (by simpa [Node.field?] using hcalc)]
  exact ⟨rfl, ⟨v, by simp, hv, hwv⟩, ⟨_, by simp, shapeOfVal_shapeArray hfit, wf_shapeArray _⟩⟩

/-! ## a second run changes nothing: Outputs mirror their input, typed edges are fixed points -/

/-- an Output node's output type is exactly `{k.replace("input","output"): v}` of its input type -/
def Mirrors (n : Node) : Prop :=
  n.kind = "Output" → renameKeys "input" "output" n.inputType = .ok n.outputType

theorem stepNode_mirrors (pre post : Node) (hok : (stepNode pre post).2 = none) : Mirrors (stepNode pre post).1 := by
  intro hkind
  obtain ⟨p1, p2, _, h2, hs⟩ := stepNode_ok hok
  rw [hs] at hkind ⊢
  have hk2 : p2.kind = "Output" := (inferOutput_frame pre p2).1.symm.trans hkind
  rw [inferOutput_of_kind pre (by simp [Recomputed, hk2])]
  rcases mirrorOutput_ok h2 with ⟨hne, rfl⟩ | ⟨_, t, ht, rfl⟩
  · exact absurd hk2 hne
  · simpa using ht

theorem stepNode_settled (pre post : Node) (a : List Int) (s t2 : List Int)
    (hpre : HasTypesK pre (a, s)) (hpost : HasTypesK post (s, t2)) (hm : Mirrors post) :
    stepNode pre post = (post, none) := by
  obtain ⟨_, ⟨vo, hpo, hso, _⟩⟩ := hpre
  obtain ⟨⟨vi, hpi, hsi, _⟩, ⟨w, hpw, hsw, _⟩⟩ := hpost
  have h1 : inferInput pre post = .ok post := by
    rw [inferInput_single hpo hpi (shapeContent_of_some hso) (shapeContent_of_some hsi)]
    simp [typeUndefined_of_shape hsi]
  have hdef : typeUndefined post.outputType = false := by rw [hpw]; exact typeUndefined_of_shape hsw
  by_cases hk : post.kind = "Output"
  · have h2 : mirrorOutput post = .ok post := by
      rw [mirrorOutput_output hk, hm hk]; simp [Except.map, Node.eta]
    rw [stepNode_of_ok h1 h2, inferOutput_of_defined pre hdef]
  · rw [stepNode_of_ok h1 (mirrorOutput_of_ne hk), inferOutput_of_defined pre hdef]

/-- typing + mirroring: what every node of an inferred consistent graph satisfies -/
def HasTypesM (n : Node) (t : List Int × List Int) : Prop := HasTypesK n t ∧ Mirrors n

end NirVerif.Lemmas
