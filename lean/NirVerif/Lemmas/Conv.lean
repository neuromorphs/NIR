import Mathlib.Data.Rat.Floor
import NirVerif.Spec.Conv
import NirVerif.Generated.ConvAxis
/-! One axis of `calculate_conv_output`: the generated expression (rationals under `floor`) is integer division
(`convAxis_eq`), and the specification's count of window positions `Spec.slide` has the same closed form (`slide_eq`). -/
namespace NirVerif.Lemmas
open NirVerif

theorem slideFrom_eq (len span s : Nat) (hs : 0 < s) (off : Nat) :
    Spec.slideFrom len span s hs off
      = if off + span ≤ len then (len - span - off) / s + 1 else 0 := by
  fun_induction Spec.slideFrom len span s hs off with
  | case1 off hle ih =>
    rw [ih, if_pos hle]
    split
    · have : len - span - off = (len - span - (off + s)) + s := by omega
      rw [this, Nat.add_div_right _ hs]; omega
    · have : (len - span - off) / s = 0 := Nat.div_eq_of_lt (by omega)
      omega
  | case2 off hle => rw [if_neg hle]

theorem slide_eq {len span s : Nat} (hs : 0 < s) (h : span ≤ len) :
    Spec.slide len span s hs = (len - span) / s + 1 := by
  unfold Spec.slide; rw [slideFrom_eq]; simp [h]

theorem slide_eq_zero {len span s : Nat} (hs : 0 < s) (h : ¬ span ≤ len) :
    Spec.slide len span s hs = 0 := by
  unfold Spec.slide; rw [slideFrom_eq]; simp [h]

theorem floor_div (a : Int) {s : Int} (hs : 0 < s) : Rat.floor ((a : Rat) / (s : Rat)) = a / s := by
  obtain ⟨n, rfl⟩ := Int.eq_ofNat_of_zero_le (le_of_lt hs)
  have h : Rat.floor ((a:ℚ) / (n:ℚ)) = a / (n : ℤ) := Rat.floor_intCast_div_natCast a n
  simpa using h

/-- the source's expression under `np.floor`, in exact rationals, is integer floor division -/
theorem convAxis_eq (n p d k : Int) {s : Int} (hs : 0 < s) :
    Generated.convAxis n p d k s = (n + 2 * p - d * (k - 1) - 1) / s + 1 := by
  unfold Generated.convAxis
  have h : (((n : Rat) + 2 * (p : Rat)) - (d : Rat) * ((k : Rat) - 1)) - 1 = ((n + 2 * p - d * (k - 1) - 1 : Int) : Rat) := by
    push_cast; ring
  rw [Rat.floor_add_one, h, floor_div _ hs]

/-- on naturals the numerator is the padded length minus the span of the dilated kernel -/
theorem convAxis_nat (n p d : Nat) {k s : Nat} (hs : 0 < s) (hk : 1 ≤ k) :
    Generated.convAxis n p d k s = (((n + 2 * p : Nat) : Int) - (Spec.span d k : Nat)) / s + 1 := by
  rw [convAxis_eq _ _ _ _ (by exact_mod_cast hs)]
  congr 2
  unfold Spec.span
  push_cast [Nat.cast_sub hk]
  ring

end NirVerif.Lemmas
