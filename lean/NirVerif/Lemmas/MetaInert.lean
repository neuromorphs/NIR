import NirVerif.Lemmas.Construct
import NirVerif.Lemmas.Step
/-
  The loop body of the inference neither reads nor writes metadata: running it on nodes whose
  metadata was replaced gives the same result with the replaced metadata.
-/
namespace NirVerif.Lemmas
open NirVerif NirVerif.Py NirVerif.Model

theorem setMeta_kind (p : Node) (m : Val) : (Node.setMeta p m).kind = p.kind := by cases p; rfl
theorem setMeta_inputType (p : Node) (m : Val) : (Node.setMeta p m).inputType = p.inputType := by cases p; rfl
theorem setMeta_outputType (p : Node) (m : Val) : (Node.setMeta p m).outputType = p.outputType := by cases p; rfl
theorem setMeta_field (p : Node) (m : Val) (k : String) : (Node.setMeta p m).field? k = p.field? k := by cases p; rfl
theorem setMeta_isKind (p : Node) (m : Val) (k : String) : (Node.setMeta p m).isKind k = p.isKind k := by cases p; rfl
theorem setMeta_setField (p : Node) (m : Val) (k : String) (v : Val) :
    (Node.setMeta p m).setField k v = Node.setMeta (p.setField k v) m := by cases p; rfl
theorem setMeta_setOutputType (p : Node) (m : Val) (t : Val) :
    (Node.setMeta p m).setOutputType t = Node.setMeta (p.setOutputType t) m := by cases p; rfl
theorem setMeta_setInputType (p : Node) (m : Val) (t : Val) :
    (Node.setMeta p m).setInputType t = Node.setMeta (p.setInputType t) m := by cases p; rfl

theorem needsInput_setMeta (pre post : Node) (m1 m2 : Val) :
    needsInput (Node.setMeta pre m1) (Node.setMeta post m2) = needsInput pre post := by
  simp only [needsInput, setMeta_outputType, setMeta_inputType]

theorem inferInput_setMeta (pre post : Node) (m1 m2 : Val) :
    inferInput (Node.setMeta pre m1) (Node.setMeta post m2) = (inferInput pre post).map (fun n => Node.setMeta n m2) := by
  simp only [inferInput, needsInput_setMeta, setMeta_outputType, setMeta_setInputType]
  cases needsInput pre post with
  | error e => rfl
  | ok b =>
    cases b
    · rfl
    · cases renameKeys "output" "input" pre.outputType <;> rfl

theorem mirrorOutput_setMeta (post : Node) (m : Val) :
    mirrorOutput (Node.setMeta post m) = (mirrorOutput post).map (fun n => Node.setMeta n m) := by
  simp only [mirrorOutput, setMeta_isKind, setMeta_inputType, setMeta_setOutputType]
  cases post.isKind "Output"
  · rfl
  · cases renameKeys "input" "output" post.inputType <;> rfl

theorem convInputShape_setMeta (p : Node) (m : Val) : convInputShape (Node.setMeta p m) = convInputShape p := by
  cases p; rfl
theorem convOutputType_setMeta (p : Node) (m : Val) (v : Val) : convOutputType (Node.setMeta p m) v = convOutputType p v := by
  cases p; rfl
theorem poolOutputType_setMeta (pre p : Node) (m1 m2 : Val) :
    poolOutputType (Node.setMeta pre m1) (Node.setMeta p m2) = poolOutputType pre p := by
  cases pre; cases p; rfl
theorem flattenShapes_setMeta (p : Node) (m : Val) : flattenShapes (Node.setMeta p m) = flattenShapes p := by
  cases p; rfl

theorem inferConv_setMeta (p : Node) (m : Val) :
    inferConv (Node.setMeta p m) = (Node.setMeta (inferConv p).1 m, (inferConv p).2) := by
  unfold inferConv
  rw [convInputShape_setMeta]
  cases convInputShape p with
  | error e => rfl
  | ok ishape =>
    simp only [setMeta_setField, convOutputType_setMeta, setMeta_setOutputType]
    cases convOutputType (p.setField "input_shape" ishape) ishape <;> rfl

theorem inferPool_setMeta (pre p : Node) (m1 m2 : Val) :
    inferPool (Node.setMeta pre m1) (Node.setMeta p m2) = (Node.setMeta (inferPool pre p).1 m2, (inferPool pre p).2) := by
  unfold inferPool
  rw [poolOutputType_setMeta]
  cases poolOutputType pre p with
  | error e => rfl
  | ok t => simp only [setMeta_setOutputType]

theorem inferFlatten_setMeta (p : Node) (m : Val) :
    inferFlatten (Node.setMeta p m) = (Node.setMeta (inferFlatten p).1 m, (inferFlatten p).2) := by
  unfold inferFlatten
  rw [flattenShapes_setMeta]
  cases flattenShapes p with
  | error e => rfl
  | ok r =>
    obtain ⟨out, b⟩ := r
    simp only [setMeta_setOutputType]
    cases b <;> rfl

theorem inferOutput_setMeta (pre post : Node) (m1 m2 : Val) :
    inferOutput (Node.setMeta pre m1) (Node.setMeta post m2) =
      (Node.setMeta (inferOutput pre post).1 m2, (inferOutput pre post).2) := by
  rcases inferOutput_cases pre post with ⟨h, hd | hk⟩ | ⟨hu, ⟨hk, h⟩ | ⟨hk, h⟩ | ⟨hk, h⟩⟩ <;> rw [h]
  · rw [inferOutput_of_defined _ (by rwa [setMeta_outputType])]
  · rw [inferOutput_of_kind _ (by rwa [setMeta_kind])]
  · rw [inferOutput_conv _ (by rwa [setMeta_outputType]) (by rwa [setMeta_kind]), inferConv_setMeta]
  · rw [inferOutput_pool _ (by rwa [setMeta_outputType]) (by rwa [setMeta_kind]), inferPool_setMeta]
  · rw [inferOutput_flatten _ (by rwa [setMeta_outputType]) (by rwa [setMeta_kind]), inferFlatten_setMeta]

theorem stepNode_setMeta (pre post : Node) (m1 m2 : Val) :
    stepNode (Node.setMeta pre m1) (Node.setMeta post m2) =
      (Node.setMeta (stepNode pre post).1 m2, (stepNode pre post).2) := by
  unfold stepNode
  rw [inferInput_setMeta]
  cases inferInput pre post with
  | error e => rfl
  | ok post1 =>
    simp only [Except.map, mirrorOutput_setMeta]
    cases mirrorOutput post1 with
    | error e => rfl
    | ok post2 => simp only [inferOutput_setMeta]

end NirVerif.Lemmas
