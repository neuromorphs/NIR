import NirVerif.Py.Value
import NirVerif.Spec.Typing
/-! Two's-complement encode/decode round trips for every integer dtype, and `chunks` (a byte string split into items)
by its recursion equation instead of its fuel. -/
namespace NirVerif.Lemmas
open NirVerif.Py

theorem leNat_natLE (w n : Nat) : leNat (natLE w n) = n % 256 ^ w := by
  induction w generalizing n with
  | zero => simp [natLE, leNat, Nat.mod_one]
  | succ w ih =>
    simp only [natLE, leNat, ih]
    have h1 : (UInt8.ofNat (n % 256)).toNat = n % 256 := by
      simp
    rw [h1, Nat.pow_succ, Nat.mul_comm (256 ^ w) 256, Nat.mod_mul]

theorem length_natLE (w n : Nat) : (natLE w n).length = w := by
  induction w generalizing n with
  | zero => rfl
  | succ w ih => simp [natLE, ih]


/-- the signed and the unsigned case of `decodeInt_encodeInt`, where `P` is `2 ^ (8 * dt.size - 1)` -/
theorem wrap_unwrap (P : Nat) (i : Int) :
    (-(P : Int) ≤ i → i < P →
      (if (i % (2 * P : Nat)).toNat ≥ P then ((i % (2 * P : Nat)).toNat : Int) - (2 * P : Nat)
        else (i % (2 * P : Nat)).toNat) = i) ∧
    (0 ≤ i → i < (2 * P : Nat) → ((i % (2 * P : Nat)).toNat : Int) = i) := by
  have key : ∀ j : Int, 0 ≤ j → j < (2 * P : Nat) → j % (2 * P : Nat) = j := fun j => Int.emod_eq_of_lt
  refine ⟨fun hlo hhi => ?_, fun hlo hhi => by rw [key i hlo hhi]; omega⟩
  by_cases hneg : i < 0
  · rw [← Int.add_emod_right, key _ (by omega) (by omega), if_pos (by omega)]
    omega
  · rw [key i (by omega) (by omega), if_neg (by omega)]
    omega

/-- what `decodeInt` reads after undoing the byte order: `i` reduced modulo `2 ^ bits`, whether or not `i` fits -/
theorem leNat_encodeInt (dt : DType) (i : Int) :
    leNat (if dt.big = true then (encodeInt dt i).reverse else encodeInt dt i) = (i % 2 ^ (8 * dt.size)).toNat := by
  have hlt : (i % 2 ^ (8 * dt.size)).toNat < 256 ^ dt.size := by
    have := Int.emod_lt_of_pos i (Int.pow_pos (by decide) : (0 : Int) < 2 ^ (8 * dt.size))
    have hc : ((2 ^ (8 * dt.size) : Nat) : Int) = 2 ^ (8 * dt.size) := by push_cast; rfl
    rw [show (256 : Nat) = 2 ^ 8 from rfl, ← Nat.pow_mul]
    omega
  unfold encodeInt
  cases dt.big <;>
    simp only [if_true, if_false, List.reverse_reverse, Bool.false_eq_true, leNat_natLE, Nat.mod_eq_of_lt hlt]

theorem decodeInt_encodeInt (dt : DType) (i : Int) (hs : 1 ≤ dt.size) (hfit : fitsInt dt i = true) :
    decodeInt dt (encodeInt dt i) = i := by
  obtain ⟨P, hP⟩ : ∃ P : Nat, 2 ^ (8 * dt.size - 1) = P := ⟨_, rfl⟩
  have hPi : ((2 : Int) ^ (8 * dt.size - 1)) = (P : Int) := by rw [← hP]; push_cast; rfl
  have hMi : ((2 : Int) ^ (8 * dt.size)) = ((2 * P : Nat) : Int) := by
    rw [← hP, ← Nat.pow_succ']; push_cast; congr 1; omega
  unfold decodeInt
  simp only [leNat_encodeInt, hP, hMi]
  unfold fitsInt at hfit
  obtain ⟨h1, h2⟩ := wrap_unwrap P i
  cases hk : dt.kind <;> simp only [hk, Bool.and_eq_true, decide_eq_true_eq, hPi, hMi] at hfit
  · simpa using h1 hfit.1 hfit.2
  · simpa using h2 hfit.1 hfit.2
  all_goals exact absurd hfit (by decide)

theorem chunks_zero (b : Bytes) : chunks 0 b = [] := by
  unfold chunks
  cases b.length <;> simp [chunksAux]

theorem chunksAux_fuel (w : Nat) (hw : 1 ≤ w) (fuel fuel' : Nat) (b : Bytes) (h : b.length ≤ fuel) (h' : b.length ≤ fuel') :
    chunksAux w fuel b = chunksAux w fuel' b := by
  induction fuel generalizing fuel' b with
  | zero =>
    obtain rfl := List.eq_nil_of_length_eq_zero (Nat.le_zero.mp h)
    cases fuel' <;> simp [chunksAux]
  | succ f ih =>
    cases fuel' with
    | zero =>
      obtain rfl := List.eq_nil_of_length_eq_zero (Nat.le_zero.mp h')
      simp [chunksAux]
    | succ f' =>
      simp only [chunksAux]
      split
      · rfl
      · rw [ih f' (b.drop w) (by simp; omega) (by simp; omega)]

theorem chunks_eq (w : Nat) (hw : 1 ≤ w) (b : Bytes) :
    chunks w b = if b.length < w then [] else b.take w :: chunks w (b.drop w) := by
  unfold chunks
  cases hb : b.length with
  | zero => simp [chunksAux]; omega
  | succ k =>
    have hw0 : ¬ w = 0 := by omega
    simp only [chunksAux, hw0, false_or, hb]
    split
    · rfl
    · rw [chunksAux_fuel w hw k (b.drop w).length _ (by simp; omega) (Nat.le_refl _)]

theorem chunks_drop (w : Nat) (hw : 1 ≤ w) (b : Bytes) : chunks w (b.drop w) = (chunks w b).tail := by
  rw [chunks_eq w hw b]
  split
  · rw [chunks_eq w hw, if_pos (by simp; omega)]; rfl
  · rfl

theorem chunks_flatten (w : Nat) (hw : 1 ≤ w) (ls : List Bytes) (hl : ∀ l ∈ ls, l.length = w) :
    chunks w ls.flatten = ls := by
  induction ls with
  | nil => rw [chunks_eq w hw]; simp; omega
  | cons l rest ih =>
    have hll : l.length = w := hl l List.mem_cons_self
    rw [chunks_eq w hw, List.flatten_cons, if_neg (by simp; omega), List.take_left' hll, List.drop_left' hll,
      ih fun x hx => hl x (List.mem_cons_of_mem _ hx)]

theorem length_encodeInt (dt : DType) (i : Int) : (encodeInt dt i).length = dt.size := by
  unfold encodeInt
  simp only
  split <;> simp [length_natLE]

theorem chunks_encodeInts (dt : DType) (hs : 1 ≤ dt.size) (xs : List Int) :
    chunks dt.size (encodeInts dt xs) = xs.map (encodeInt dt) :=
  chunks_flatten dt.size hs _ fun l hl => by
    obtain ⟨x, _, rfl⟩ := List.mem_map.mp hl
    exact length_encodeInt dt x

theorem decodeInts_encodeInts (dt : DType) (xs : List Int) (hs : 1 ≤ dt.size)
    (hfit : ∀ x ∈ xs, fitsInt dt x = true) : decodeInts dt (encodeInts dt xs) = xs := by
  rw [decodeInts, chunks_encodeInts dt hs, List.map_map]
  conv => rhs; rw [← List.map_id xs]
  exact List.map_congr_left fun x hx => decodeInt_encodeInt dt x hs (hfit x hx)

end NirVerif.Lemmas
