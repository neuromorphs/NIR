import NirVerif.Model.Graph
import NirVerif.Spec.Typing
import NirVerif.Lemmas.Encoding
/-!
  Shape values: the forms a defined shape can take (`ShapeForm`), how the model's readers see them, the well-formed
  int64 / uint64 vectors inference itself produces (`FitsI64`, `WFShape`), and the edge check on two single-port nodes.
-/
namespace NirVerif.Lemmas
open NirVerif NirVerif.Py NirVerif.Model


/-- what a port of a type dictionary may hold: `None` (undefined) or a value the specification reads as a shape -/
def PortVal (v : Val) : Prop := v = .none ∨ (Spec.shapeOfVal v).isSome

theorem portVal_of_shape {v : Val} {s : List Int} (h : Spec.shapeOfVal v = some s) : PortVal v :=
  Or.inr (by rw [h]; rfl)

theorem asInt_eq : Val.asInt? = Spec.intOfVal := by
  funext v
  cases v <;> simp [Val.asInt?, Spec.intOfVal, DType.isInteger]

/-- the forms of a value that `Spec.shapeOfVal` reads as the integers `xs`, in the model's terms -/
inductive ShapeForm (xs : List Int) : Val → Prop
  | arr (dt : DType) (n : Nat) (d : Bytes) : dt.isInteger = true → decodeInts dt d = xs → ShapeForm xs (.arr dt [n] d)
  | empty (dt : DType) (d : Bytes) : dt.isInteger = false → xs = [] → ShapeForm xs (.arr dt [0] d)
  | tuple (ys : List Val) : ys.mapM Val.asInt? = some xs → ShapeForm xs (.tuple ys)
  | list (ys : List Val) : ys.mapM Val.asInt? = some xs → ShapeForm xs (.list ys)

theorem shapeOfVal_form {v : Val} {xs : List Int} (h : Spec.shapeOfVal v = some xs) : ShapeForm xs v := by
  cases v with
  | arr dt sh d =>
    match sh, h with
    | [n], h =>
      simp only [Spec.shapeOfVal] at h
      split at h
      · exact .arr dt n d (by assumption) (by simpa using h)
      · split at h
        · rename_i hk hn
          obtain rfl : n = 0 := by simpa using hn
          exact .empty dt d (by simpa [DType.isInteger] using hk) (by simpa using h.symm)
        · cases h
  | tuple ys => exact .tuple ys (by rw [asInt_eq]; exact h)
  | list ys => exact .list ys (by rw [asInt_eq]; exact h)
  | _ => simp [Spec.shapeOfVal] at h

theorem shapeContent_of_some {v : Val} {s : List Int} (h : Spec.shapeOfVal v = some s) :
    shapeContent v = .ok (some s) := by
  cases shapeOfVal_form h <;> simp_all [shapeContent]

theorem typeUndefined_of_shape {k : String} {v : Val} {s : List Int} (h : Spec.shapeOfVal v = some s) :
    typeUndefined (.dict [(k, v)]) = false := by
  cases shapeOfVal_form h <;> simp [typeUndefined]

theorem portVal_content {v : Val} (h : PortVal v) (k : String) :
    shapeContent v = .ok (Spec.shapeOfVal v) ∧ typeUndefined (.dict [(k, v)]) = (Spec.shapeOfVal v).isNone := by
  rcases h with rfl | h
  · exact ⟨rfl, rfl⟩
  · obtain ⟨s, hs⟩ := Option.isSome_iff_exists.mp h
    rw [hs]
    exact ⟨shapeContent_of_some hs, typeUndefined_of_shape hs⟩

theorem shapeContent_none : shapeContent .none = .ok Option.none := rfl

theorem portShape_dict {d : Val} {s : List Int} (h : Spec.portShape d = some s) :
    ∃ k v, d = .dict [(k, v)] ∧ Spec.shapeOfVal v = some s := by
  cases d with
  | dict kvs =>
    match kvs, h with
    | [(a, b)], h => exact ⟨a, b, rfl, by simpa [Spec.portShape] using h⟩
  | _ => simp [Spec.portShape] at h

theorem defined_of_portShape {d : Val} {s : List Int} (h : Spec.portShape d = some s) : typeUndefined d = false := by
  obtain ⟨k, v, rfl, hv⟩ := portShape_dict h
  exact typeUndefined_of_shape hv

theorem portVal_of_portShape {d : Val} {s : List Int} (h : Spec.portShape d = some s) :
    ∃ k v, d = .dict [(k, v)] ∧ PortVal v := by
  obtain ⟨k, v, hd, hv⟩ := portShape_dict h
  exact ⟨k, v, hd, portVal_of_shape hv⟩

/-- non-negative and below `2 ^ 63`: such entries survive both the int64 and the uint64 vectors inference writes -/
def FitsI64 (xs : List Int) : Prop := ∀ x ∈ xs, 0 ≤ x ∧ x < 2 ^ 63

instance (xs : List Int) : Decidable (FitsI64 xs) := List.decidableBAll _ _

theorem fits_ofNat (s : List Nat) (h : ∀ x ∈ s, x < 2 ^ 63) : FitsI64 (s.map Int.ofNat) := by
  intro x hx
  obtain ⟨y, hy, rfl⟩ := List.mem_map.mp hx
  have := h y hy
  refine ⟨Int.natCast_nonneg y, ?_⟩
  show (y : Int) < 2 ^ 63
  omega

def u64 : DType := { kind := .uint, size := 8 }

theorem decodeInts_encodeInts_fits {dt : DType} (hdt : dt = DType.int64 ∨ dt = u64) {xs : List Int} (h : FitsI64 xs) :
    decodeInts dt (encodeInts dt xs) = xs := by
  refine decodeInts_encodeInts dt xs (by rcases hdt with rfl | rfl <;> decide) fun x hx => ?_
  obtain ⟨h0, h1⟩ := h x hx
  rcases hdt with rfl | rfl
  · exact (Bool.and_eq_true _ _).mpr ⟨decide_eq_true (show -(2 ^ 63 : Int) ≤ x by omega), decide_eq_true h1⟩
  · exact (Bool.and_eq_true _ _).mpr ⟨decide_eq_true h0, decide_eq_true (show x < (2 ^ 64 : Int) by omega)⟩

theorem shapeOfVal_ofInts {xs : List Int} (h : FitsI64 xs) : Spec.shapeOfVal (Val.ofInts xs) = some xs := by
  simp only [Spec.shapeOfVal, Val.ofInts, decodeInts_encodeInts_fits (Or.inl rfl) h]
  rfl

theorem shapeOfVal_shapeArray {xs : List Int} (h : FitsI64 xs) : Spec.shapeOfVal (shapeArray xs) = some xs := by
  unfold shapeArray
  split
  · rename_i he
    have : xs = [] := by simpa using he
    subst this; rfl
  · exact shapeOfVal_ofInts h

theorem shapeOfVal_flattenArray (it : Val) {xs : List Int} (h : FitsI64 xs) :
    Spec.shapeOfVal (flattenArray it xs) = some xs := by
  unfold flattenArray
  split
  · split
    · exact congrArg some (decodeInts_encodeInts_fits (dt := u64) (Or.inr rfl) h)
    · exact shapeOfVal_shapeArray h
  · exact shapeOfVal_shapeArray h

theorem shapeInts_of_some {v : Val} {s : List Int} (h : Spec.shapeOfVal v = some s) (hne : s ≠ []) :
    shapeInts v = .ok s := by
  cases shapeOfVal_form h <;> simp_all [shapeInts]

/-- not an unsigned numpy scalar (numpy promotes uint64 mixed with int64 to float64) -/
def NoUnsigned (x : Val) : Prop := ∀ dt b, x = .npscalar dt b → dt.kind ≠ .uint

/-- a well-formed shape value: a rank-1 array's declared length is the number of items it
holds, and no unsigned numpy integers occur (as dtype or as tuple entries) -/
def WFShape : Val → Prop
  | .arr dt [n] d => n = (chunks dt.size d).length ∧ dt.kind ≠ .uint
  | .tuple xs => ∀ x ∈ xs, NoUnsigned x
  | .list xs => ∀ x ∈ xs, NoUnsigned x
  | _ => True

theorem wf_ofInts (xs : List Int) : WFShape (Val.ofInts xs) := by
  refine ⟨?_, by decide⟩
  simp [chunks_encodeInts DType.int64 (by decide)]

theorem wf_shapeArray (xs : List Int) : WFShape (shapeArray xs) := by
  unfold shapeArray
  split
  · exact ⟨rfl, by decide⟩
  · exact wf_ofInts xs

theorem wf_flattenArray {it : Val} (xs : List Int) {s : List Int} (hit : WFShape it) (hsh : Spec.shapeOfVal it = some s) :
    WFShape (flattenArray it xs) := by
  -- a well-formed input array is not unsigned, so the result is never the uint64 vector
  cases shapeOfVal_form hsh with
  | arr dt n d _ _ | empty dt d _ _ =>
    have hu : (dt.kind == DKind.uint) = false := by simpa using hit.2
    simp only [flattenArray, hu, Bool.false_and, Bool.false_eq_true, if_false]
    exact wf_shapeArray xs
  | tuple ys _ | list ys _ => exact wf_shapeArray xs

/-- a leaf node with one input and one output port: the nodes for which `_check_types` compares exactly one pair of shapes -/
def SinglePort (n : Node) : Prop :=
  n.isKind "NIRGraph" = false ∧ (∃ k v, n.inputType = .dict [(k, v)] ∧ PortVal v)
    ∧ (∃ k v, n.outputType = .dict [(k, v)] ∧ PortVal v)

theorem checkEdge_single {nodes : Nodes} {e : Edge} {a b : Node} {ko ki : String} {vo vi : Val}
    {x y : Option (List Int)} (ha : lookup e.1 nodes = some a) (hb : lookup e.2 nodes = some b)
    (hka : a.isKind "NIRGraph" = false) (hkb : b.isKind "NIRGraph" = false)
    (hout : a.outputType = .dict [(ko, vo)]) (hin : b.inputType = .dict [(ki, vi)])
    (hco : shapeContent vo = .ok x) (hci : shapeContent vi = .ok y) :
    checkEdge nodes e =
      if typeUndefined (.dict [(ko, vo)]) || typeUndefined (.dict [(ki, vi)]) || !(y == x) then .error .valueError
      else .ok () := by
  simp only [checkEdge, ha, hb, hka, hkb, hout, hin, typeLen, singleValue, shapeEq, hco, hci, bind, Except.bind, pure,
    Except.pure, List.length_singleton, bne_self_eq_false, beq_self_eq_true, Bool.or_self, Bool.false_eq_true, if_false,
    if_true]
  cases typeUndefined (.dict [(ko, vo)]) <;> cases typeUndefined (.dict [(ki, vi)]) <;> cases y == x <;> rfl

theorem checkEdge_spec {nodes : Nodes} {e : Edge} {a b : Node}
    (ha : lookup e.1 nodes = some a) (hb : lookup e.2 nodes = some b)
    (hsa : SinglePort a) (hsb : SinglePort b) :
    (checkEdge nodes e = .ok () ∧ ∃ s, Spec.portShape a.outputType = some s ∧ Spec.portShape b.inputType = some s)
    ∨ (checkEdge nodes e = .error .valueError ∧
        ¬ ∃ s, Spec.portShape a.outputType = some s ∧ Spec.portShape b.inputType = some s) := by
  obtain ⟨hka, -, ko, vo, hout, hpo⟩ := hsa
  obtain ⟨hkb, ⟨ki, vi, hin, hpi⟩, -⟩ := hsb
  rw [hout, hin, checkEdge_single ha hb hka hkb hout hin (portVal_content hpo ko).1 (portVal_content hpi ki).1,
    (portVal_content hpo ko).2, (portVal_content hpi ki).2]
  simp only [Spec.portShape]
  rcases Spec.shapeOfVal vo with _ | so <;> rcases Spec.shapeOfVal vi with _ | si
  · simp
  · simp
  · simp
  · by_cases heq : si = so <;> simp [heq]

theorem forEachEdge_ok (f : Edge → Except PyErr Unit) (l : List Edge) :
    (forEachEdge f l = .ok () ↔ ∀ x ∈ l, f x = .ok ()) := by
  induction l with
  | nil => simp [forEachEdge]
  | cons x xs ih =>
    simp only [forEachEdge, List.mem_cons, forall_eq_or_imp]
    cases hx : f x with
    | error e => simp
    | ok u => cases u; simpa using ih

theorem forEachEdge_err (f : Edge → Except PyErr Unit) (l : List Edge) (e0 : PyErr)
    (h : ∀ x ∈ l, f x = .ok () ∨ f x = .error e0) :
    forEachEdge f l = .ok () ∨ forEachEdge f l = .error e0 := by
  induction l with
  | nil => left; rfl
  | cons x xs ih =>
    simp only [forEachEdge]
    rcases h x (List.mem_cons_self) with hx | hx
    · rw [hx]
      exact ih (fun y hy => h y (List.mem_cons_of_mem _ hy))
    · right; rw [hx]

end NirVerif.Lemmas
