import NirVerif.Py.Basic
import NirVerif.Spec.Flatten
/-! Python slices with normalised (possibly negative) bounds as `take` / `drop` (`slice_to`, `slice_from`, `slice_mid`),
and the product of a flattened shape: what `C07` needs of `Py.slice`, `Spec.normDim` and `Spec.flattenShape`. -/
namespace NirVerif.Lemmas
open NirVerif

theorem prod_map_ofNat (l : List Nat) : Py.prod (l.map Int.ofNat) = (Spec.prodNat l : Int) := by
  induction l with
  | nil => rfl
  | cons x xs ih => simp [Py.prod, Spec.prodNat, ih]

theorem slice_map {α β : Type} (f : α → β) (l : List α) (a b : Option Int) :
    Py.slice (l.map f) a b = (Py.slice l a b).map f := by
  unfold Py.slice
  simp [List.map_take, List.map_drop]

theorem prodNat_append (a b : List Nat) : Spec.prodNat (a ++ b) = Spec.prodNat a * Spec.prodNat b := by
  induction a with
  | nil => simp [Spec.prodNat]
  | cons x xs ih => simp [Spec.prodNat, ih, Nat.mul_assoc]


theorem normDim_succ {n : Nat} {e : Int} (h : e ≠ -1) : Spec.normDim n (e + 1) = Spec.normDim n e + 1 := by
  unfold Spec.normDim; split <;> split <;> omega

/-- the two spellings of the last dimension -/
theorem normDim_last {n : Nat} {e : Int} {e' : Nat} (he : Spec.normDim n e = e') (h : e = -1 ∨ e = n - 1) :
    e' + 1 = n := by
  unfold Spec.normDim at he; split at he <;> omega

theorem normBound_of_normDim {n : Nat} {i : Int} {i' : Nat} (h : Spec.normDim n i = i') (hle : i' ≤ n) :
    Py.normBound n i = i' := by
  unfold Py.normBound Spec.normDim at *
  split at h <;> rename_i hneg
  · rw [if_pos hneg]; omega
  · rw [if_neg hneg]; omega

theorem slice_to {α} {l : List α} {s : Int} {s' : Nat} (hs : Spec.normDim l.length s = s') (hle : s' ≤ l.length) :
    Py.slice l none (some s) = l.take s' := by
  simp [Py.slice, normBound_of_normDim hs hle]

theorem slice_from {α} {l : List α} {s : Int} {s' : Nat} (hs : Spec.normDim l.length s = s') (hle : s' ≤ l.length) :
    Py.slice l (some s) none = l.drop s' := by
  simp only [Py.slice, normBound_of_normDim hs hle]
  exact List.take_of_length_le (by simp)

theorem slice_mid {α} {l : List α} {s e : Int} {s' e' : Nat} (hs : Spec.normDim l.length s = s')
    (he : Spec.normDim l.length e = e') (hle : s' ≤ l.length) (hle' : e' ≤ l.length) :
    Py.slice l (some s) (some e) = (l.drop s').take (e' - s') := by
  simp [Py.slice, normBound_of_normDim hs hle, normBound_of_normDim he hle']


theorem prodNat_flattenShape (shape : List Nat) (s e : Nat) (hse : s ≤ e) :
    Spec.prodNat (Spec.flattenShape shape s e) = Spec.prodNat shape := by
  have h : shape.drop (e + 1) = (shape.drop s).drop (e - s + 1) := by rw [List.drop_drop]; congr 1; omega
  conv => rhs; rw [← List.take_append_drop s shape, ← List.take_append_drop (e - s + 1) (shape.drop s), ← h]
  simp [Spec.flattenShape, prodNat_append, Spec.prodNat]

end NirVerif.Lemmas
