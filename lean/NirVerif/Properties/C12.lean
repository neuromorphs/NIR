import NirVerif.Lemmas.FromList
import NirVerif.Lemmas.Construct
import NirVerif.Model.File
import NirVerif.Lemmas.FromDict
import NirVerif.Lemmas.Inference

/-! # C12 — the graph-level interface always mirrors its Input and Output nodes

About `Model.mkGraph`, `Model.fromList`, `Model.inferTypes` (tied to the code by the `graphs`
correspondence suite with operation histories).  Dict and file round trips rebuild the graph
through `mkGraph` (`fromDict`), so they are covered by `init`: `fromDict_mirror`, `read_mirror`. -/
namespace NirVerif.C12
open NirVerif NirVerif.Py NirVerif.Model NirVerif.Lemmas

/-- `graph.inputs` / `graph.outputs`: exactly the children that are Input resp. Output. -/
def inputsOf (g : Node) : Nodes := g.children.filter fun kv => kv.2.kind == "Input"
def outputsOf (g : Node) : Nodes := g.children.filter fun kv => kv.2.kind == "Output"

/-- The graph-level dictionaries map exactly those children's names to those children's
*current* types (`None` standing for the empty input map, as `__post_init__` has it). -/
def Mirror (g : Node) : Prop :=
  (g.inputType = if (inputsOf g).isEmpty then Val.none
                 else Val.dict ((inputsOf g).map fun kv => (kv.1, kv.2.inputType))) ∧
  g.outputType = Val.dict ((outputsOf g).map fun kv => (kv.1, kv.2.outputType))

theorem accessors (g : Node) : graphInputs g = inputsOf g ∧ graphOutputs g = outputsOf g := ⟨rfl, rfl⟩

/-- after construction -/
theorem init (children : Nodes) (edges : List Edge) (md : Val) : Mirror (mkGraph children edges md) :=
  ⟨rfl, rfl⟩

/-- after a refresh of the graph-level dictionaries, whatever the node was -/
theorem refreshIO_mirror (g : Node) : Mirror g.refreshIO := by
  cases g; exact ⟨rfl, rfl⟩

/-- after `from_list` -/
theorem fromList_mirror (ns : List Node) (g : Node) (h : fromList ns = .ok g) : Mirror g := by
  cases ns with
  | nil => cases h
  | cons first rest =>
    rw [FromList.fromList_cons] at h
    obtain ⟨_, _, h⟩ := bind_ok h
    obtain ⟨_, _, h⟩ := bind_ok h
    cases h; exact init ..

/-- after `infer_types`, whether it returned normally or raised half-way -/
theorem infer_mirror (g : Node) (hg : Mirror g) : Mirror (inferTypes g).1 := by
  unfold inferTypes
  split
  · exact hg
  · exact refreshIO_mirror _

/-- after `from_dict` / `read` (both rebuild a graph through the constructor): whatever the
dictionary, a graph that comes out mirrors its Input/Output children -/
theorem fromDict_mirror (d : Val) (g : Node) (h : fromDict d = .ok g) (hk : g.kind = "NIRGraph") : Mirror g := by
  obtain ⟨_, kvs, kind, _, _, _, _, hcase⟩ := fromDictFuel_ok h
  split at hcase
  · obtain ⟨_, cs, es, md, _, _, rfl⟩ := graphOfDict_ok hcase
    exact init _ _ _
  · obtain ⟨kw, hc⟩ := hcase
    exact absurd ((construct_kind kind kw g hc).1.symm.trans hk) ‹_›

/-- after `nir.read` -/
theorem read_mirror (f : H5) (g : Node) (h : Model.read f = .ok g) (hk : g.kind = "NIRGraph") : Mirror g := by
  obtain ⟨_, _, h⟩ := bind_ok h
  exact fromDict_mirror _ g h hk

inductive HistOp where | infer | dictRt | fileRt

def applyOp (g : Node) : HistOp → Node
  | .infer => (inferTypes g).1
  | .dictRt => match (toDict g).bind fromDict with | .ok g' => g' | .error _ => g
  | .fileRt => match (write "v" g).bind Model.read with | .ok g' => g' | .error _ => g

/-- a node that is a graph mirrors its children (leaf primitives have no graph-level interface) -/
def MirrorIfGraph (g : Node) : Prop := g.kind = "NIRGraph" → Mirror g

/-- hence after any history of `from_dict(to_dict(·))`, `read(write(·))` and `infer_types`; a round trip that raises
leaves the graph as it was (`applyOp`) -/
theorem history_mirror (ops : List HistOp) (g : Node) (hg : MirrorIfGraph g) :
    MirrorIfGraph (ops.foldl applyOp g) := by
  induction ops generalizing g with
  | nil => exact hg
  | cons op rest ih =>
    refine ih _ ?_
    -- a round trip either fails, leaving the graph as it was, or yields what `fromDict` built
    have step : ∀ r : Except PyErr Node, (∀ g', r = .ok g' → MirrorIfGraph g') →
        MirrorIfGraph (match r with | .ok g' => g' | .error _ => g) := fun r h => by
      cases r with
      | ok g' => exact h g' rfl
      | error _ => exact hg
    cases op with
    | infer => exact fun hk => infer_mirror g (hg ((inferTypes_graph g).1 ▸ hk))
    | dictRt => exact step _ fun g' h => let ⟨d, _, hf⟩ := bind_ok h; fromDict_mirror d g' hf
    | fileRt => exact step _ fun g' h => let ⟨f, _, hr⟩ := bind_ok h; read_mirror f g' hr

def iterInfer : Nat → Node → Node
  | 0, g => g
  | k + 1, g => iterInfer k (inferTypes g).1

/-- hence after any number of `infer_types` calls on any graph that mirrors its children
(in particular a freshly built one) -/
theorem infer_history (g : Node) (hg : Mirror g) (k : Nat) : Mirror (iterInfer k g) := by
  induction k generalizing g with
  | zero => exact hg
  | succ k ih => exact ih _ (infer_mirror g hg)

/-- Non-vacuity: the hypothesis `Mirror g` is met by every constructed graph, e.g. one with
an Input and an (untyped) Output child; the theorems then apply to it after inference. -/
example : Mirror (iterInfer 3 (mkGraph
    [("in", Node.mk "Input" [] (typeDict "input" (Val.ofInts [2])) (typeDict "output" (Val.ofInts [2])) (.dict []) [] []),
     ("out", Node.mk "Output" [] (typeDict "input" .none) (typeDict "output" .none) (.dict []) [] [])]
    [("in", "out")])) :=
  infer_history _ (init _ _ _) 3

end NirVerif.C12
