import NirVerif.Lemmas.FileForm
import NirVerif.Lemmas.FromDict

/-! # C02 — tensor parameters survive serialisation bit-for-bit

About the NIR side of the pipeline: `asdict` copies without conversion (`toDict`), the ndarray
branch of the writer passes the array's own dtype (`h5Create (.arr …)`), the reader returns
`item[()]` unchanged (`h5Load`).  That h5py/libhdf5 themselves store and return the same bits
for every dtype is part of the *contract model* (trusted base), exercised on every run by the
`bits` correspondence/oracle suite.  Memory layout does not exist in the model (`Val.arr` is the
C-order byte string that `tobytes()` observes), so it is inert by construction. -/
namespace NirVerif.C02
open NirVerif NirVerif.Py NirVerif.Model NirVerif.Lemmas

/-- what `np.asarray(field).dtype / .shape / .tobytes()` observes -/
def arrayView : Val → Option (DType × List Nat × Bytes)
  | .arr dt sh d => some (dt, sh, d)
  | .npscalar dt d => some (dt, [], d)
  | _ => none

/-- dtypes h5py stores natively (everything numeric; not object / unicode arrays) -/
def storable (dt : DType) : Prop := dt.kind ≠ .object ∧ dt.kind ≠ .unicodeU

/-- **Dataset level**: identical dtype, shape and bytes — every storable dtype, every rank
(0 included), every shape (zero-length axes included), every bit pattern (the bytes are
opaque to the model: NaN payloads, signed zeros, subnormals are just bytes).  numpy scalars
being native-endian, rank 0 is claimed for little-endian dtypes. -/
theorem array_bits (dt : DType) (sh : List Nat) (d : Bytes) (hdt : storable dt)
    (hle : sh = [] → dt.big = false) :
    (h5Create (.arr dt sh d)).map (fun ds => arrayView (h5Load ds)) = some (some (dt, sh, d)) := by
  rw [h5Create_arr dt sh d hdt]
  cases sh with
  | nil => rw [Option.map_some, h5Load_scalar dt d (hle rfl)]; rfl
  | cons n rest => rfl

/-- numpy scalars (what a rank-0 parameter is after one round trip) keep dtype and bytes too,
so a second round trip changes nothing either -/
theorem scalar_bits (dt : DType) (d : Bytes) (hle : dt.big = false) :
    (h5Create (.npscalar dt d)).map (fun ds => arrayView (h5Load ds)) = some (some (dt, [], d)) := by
  rw [h5Create_npscalar, Option.map_some, h5Load_scalar dt d hle]; rfl

/-- **Any field of any node at any depth**: an array found at a path of keys in the dictionary
form of a graph is found, with identical dtype / shape / bytes, at the same path in the
dictionary the reader hands to the constructors. -/
theorem param_roundtrip (path : List String) (fuel : Nat) (kvs : List (String × Val)) (items : List (String × H5))
    (h : writeRecursiveFuel fuel kvs [] = .ok items) (hne : path ≠ []) (hlast : path.getLast? ≠ some "metadata")
    (dt : DType) (sh : List Nat) (d : Bytes) (hdt : storable dt) (hle : sh = [] → dt.big = false)
    (hp : getPath (.dict kvs) path = some (.arr dt sh d)) :
    ∃ v', getPath (hdf2dict (.group items)) path = some v' ∧ arrayView v' = some (dt, sh, d) := by
  obtain ⟨ds, hc, hg⟩ := path_roundtrip path fuel kvs items h hne hlast _ hp (by intro d' hd; cases hd)
  refine ⟨h5Load ds, hg, ?_⟩
  have := array_bits dt sh d hdt hle
  rw [hc] at this
  simpa using this

/-- `to_dict` hands every field of a leaf node to the writer unconverted -/
theorem toDict_field (kind : String) (fields : List (String × Val)) (it ot md : Val) (k : String) (v : Val)
    (hk : kind ≠ "NIRGraph" ∧ kind ≠ "Input" ∧ kind ≠ "Output" ∧ kind ≠ "Flatten")
    (hf : lookup k fields = some v) :
    ∃ d, toDict (Node.mk kind fields it ot md [] []) = .ok (.dict d) ∧ lookup k d = some v :=
  ⟨_, toDict_generic kind fields it ot md hk, by rw [lookup_append, hf]; rfl⟩

/-- Non-vacuity: a float32 matrix holding a signalling-NaN pattern, −0.0 and a subnormal. -/
example : (h5Create (.arr { kind := .float, size := 4 } [1, 3] [1, 0, 0x80, 0x7f, 0, 0, 0, 0x80, 1, 0, 0, 0])).map
    (fun ds => arrayView (h5Load ds))
    = some (some ({ kind := .float, size := 4 }, [1, 3], [1, 0, 0x80, 0x7f, 0, 0, 0, 0x80, 1, 0, 0, 0])) :=
  array_bits _ _ _ ⟨by decide, by decide⟩ (by intro h; cases h)

end NirVerif.C02
