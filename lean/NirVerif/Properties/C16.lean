import NirVerif.Lemmas.FileForm
import NirVerif.Lemmas.Inference
import NirVerif.Lemmas.MetaInert
import NirVerif.Properties.C10

/-! # C16 — metadata is carried faithfully and is semantically inert

About `Model.writeRecursiveFuel` / `Model.hdf2dict` (metadata is an ordinary dictionary entry
written by the generic recursive writer) and `Model.stepNode` / `Model.checkEdge` (types,
type check and inference never look at metadata).  Whole-file inertness (all other datasets
identical with and without metadata) is compared on raw traversals by the oracle on every run. -/
namespace NirVerif.C16
open NirVerif NirVerif.Py NirVerif.Model NirVerif.Lemmas

/-- what a metadata leaf of a recommended kind reads back as: equal as a number / array / string -/
def metaBack : Val → Option Val
  | .str s => some (.str s)
  | .int i => some (.npscalar DType.int64 (encodeInt DType.int64 i))
  | .float bits => some (.npscalar DType.float64 bits)
  | .bool b => some (.npscalar DType.bool_ [if b then 1 else 0])
  | .arr dt (n :: sh) d => some (.arr dt (n :: sh) d)
  | _ => none

/-- the dataset made of a metadata leaf loads back as `metaBack` says -/
theorem leaf_back (v v' : Val) (hv : metaBack v = some v')
    (hstr : ∀ s, v = .str s → ¬ s.toList.contains (Char.ofNat 0))
    (hint : ∀ i, v = .int i → fitsInt DType.int64 i = true)
    (harr : ∀ dt sh d, v = .arr dt sh d → dt.kind ≠ .object ∧ dt.kind ≠ .unicodeU) :
    (h5Create v).map h5Load = some v' := by
  cases v with
  | str s => cases hv; rw [h5Create_str s (hstr s rfl)]; rfl
  | int i => cases hv; rw [h5Create_int i (hint i rfl)]; rfl
  | float bits => cases hv; rfl
  | bool b => cases hv; rfl
  | arr dt sh d =>
    cases sh with
    | nil => cases hv
    | cons n rest => cases hv; rw [h5Create_arr dt _ d (harr dt _ d rfl)]; rfl
  | _ => cases hv

/-- **Carried**: every leaf of a metadata tree — any nesting depth, on a graph or on a node at
any depth (`path` may start with `nodes/<name>/…`) — is returned under the same keys and
nesting, equal as a string / number / array. -/
theorem carried (path : List String) (fuel : Nat) (kvs : List (String × Val)) (items : List (String × H5))
    (h : writeRecursiveFuel fuel kvs [] = .ok items) (hne : path ≠ []) (hlast : path.getLast? ≠ some "metadata")
    (v v' : Val) (hp : getPath (.dict kvs) path = some v) (hv : metaBack v = some v')
    (hstr : ∀ s, v = .str s → ¬ s.toList.contains (Char.ofNat 0))
    (hint : ∀ i, v = .int i → fitsInt DType.int64 i = true)
    (harr : ∀ dt sh d, v = .arr dt sh d → dt.kind ≠ .object ∧ dt.kind ≠ .unicodeU) :
    getPath (hdf2dict (.group items)) path = some v' := by
  obtain ⟨ds, hc, hg⟩ := path_roundtrip path fuel kvs items h hne hlast v hp (fun d hd => by subst hd; cases hv)
  have := leaf_back v v' hv hstr hint harr
  rw [hc] at this
  rw [hg, Option.some.inj this]

/-- no key appears that the metadata dictionary does not have -/
theorem no_extra_keys (fuel : Nat) (kvs : List (String × Val)) (items : List (String × H5))
    (h : writeRecursiveFuel fuel kvs [] = .ok items) (k : String) (hk : lookup k kvs = none) :
    lookup k (hdf2dict.hdf2dictItems items) = none :=
  (C01.back_of_write h).absent hk

/-- **Inert in the file**: the dataset stored for any other entry of a node depends only on
that entry — two dictionaries that agree on key `k` store the same member under `k`, whatever
their `metadata` (attached, changed or removed). -/
theorem inert_members (fuel fuel' : Nat) (kvs kvs' : List (String × Val)) (items items' : List (String × H5))
    (h : writeRecursiveFuel fuel kvs [] = .ok items) (h' : writeRecursiveFuel fuel' kvs' [] = .ok items')
    (k : String) (v : Val) (hk : lookup k kvs = some v) (hk' : lookup k kvs' = some v)
    (hnm : k ≠ "metadata") (hnd : ∀ d, v ≠ .dict d) :
    lookup k items = lookup k items' := by
  obtain ⟨ds, hc, hl⟩ := (write_encodes _ _ _ h).dset hk hnm hnd
  obtain ⟨ds', hc', hl'⟩ := (write_encodes _ _ _ h').dset hk' hnm hnd
  rw [hc] at hc'; cases hc'
  rw [hl, hl']

/-- **Inert for types**: one loop body of inference returns the node's metadata unchanged … -/
theorem inert_inference (pre post : Node) : (stepNode pre post).1.metadata = post.metadata :=
  (stepNode_frame pre post).2.1

/-- … and whole-graph inference returns every node's metadata, and the graph's, untouched. -/
theorem inert_infer_types (g : Node) :
    (inferTypes g).1.metadata = g.metadata ∧
    ∀ k n0, lookup k g.children = some n0 → ∃ n, lookup k (inferTypes g).1.children = some n ∧ n.metadata = n0.metadata := by
  obtain ⟨_, hm, _, _, _, hc⟩ := C10.frame g
  exact ⟨hm, fun k n0 h0 => (hc k n0 h0).imp fun n h => ⟨h.1, h.2.2.1⟩⟩

/-- **Construction-time types do not depend on metadata**: for every primitive, attaching or
changing the `metadata` keyword changes the constructed node in its `metadata` field only (and
cannot turn a rejected parameter set into an accepted one or vice versa). -/
theorem inert_construction (kind : String) (f : List (String × Val)) (m : Val) :
    postInit kind (Py.insert "metadata" m f) = (postInit kind f).map (fun n => Node.setMeta n m) :=
  postInit_meta kind f m

/-- **The inference loop body is blind to metadata**: with *any* metadata on the two nodes the
step computes the same types, the same `input_shape`, and raises the same error. -/
theorem inert_step (pre post : Node) (m1 m2 : Val) :
    stepNode (Node.setMeta pre m1) (Node.setMeta post m2) =
      (Node.setMeta (stepNode pre post).1 m2, (stepNode pre post).2) :=
  stepNode_setMeta pre post m1 m2

/-- **The type check is blind to metadata**: replacing the metadata of every node (by any
assignment `μ` of metadata to node names) leaves the verdict on every edge unchanged. -/
theorem inert_check (μ : String → Val) (nodes : Nodes) (e : Edge) :
    checkEdge (nodes.map fun kv => (kv.1, Node.setMeta kv.2 (μ kv.1))) e = checkEdge nodes e := by
  unfold checkEdge
  simp only [lookup_map_val fun k n => Node.setMeta n (μ k)]
  cases lookup e.1 nodes <;> cases lookup e.2 nodes <;>
    simp only [Option.map, setMeta_isKind, setMeta_outputType, setMeta_inputType]

/-- Non-vacuity of `carried` (its hypotheses `hv`, `hp`): an int leaf two levels down, under a unicode key, in the
metadata of a node of a graph. -/
example : metaBack (.int 159) = some (.npscalar DType.int64 (encodeInt DType.int64 159)) ∧
    getPath (.dict [("nodes", .dict [("n", .dict [("metadata", .dict [("键", .dict [("depth", .int 159)])])])])])
      ["nodes", "n", "metadata", "键", "depth"] = some (.int 159) := by
  constructor <;> rfl

end NirVerif.C16
