import NirVerif.Model.File
import NirVerif.Spec.Layout
import NirVerif.Lemmas.FromDict
import NirVerif.Lemmas.FileForm

/-! # C03 — written files follow the published on-disk layout

`Spec.docNames` is the documented layout.  `storedNames` computes member names from the *generated*
dataclass field table (T1) by the rule `to_dict` follows (drop the derived types, add `type`, the
class-specific entry) — so renaming, adding or dropping a field breaks `names` in the build, before any
input is sampled.  `storedNames` is written in this file; that the model's `toDict` and `write` store
these names is `toDict_keys_generic` and `leaf_group` (Properties/C03File.lean) for a node with given fields, not a theorem
about `storedNames`.  The value-level encoding (dtype, shape, bytes,
vlen UTF-8 strings) and the whole tree are compared on every run by the `files`
correspondence suite (raw h5py traversal vs. model) and by an independent Python reference
encoder. -/
namespace NirVerif.C03
open NirVerif NirVerif.Py NirVerif.Model

/-- member names that `NIRNode.to_dict` + the class-specific overrides produce for a class
with the given dataclass fields (`metadata` apart, which is stored only when non-empty) -/
def storedNames (kind : String) : List String :=
  let fields := ((lookup kind Generated.classFields).getD []).map Prod.fst
  let plain := fields.filter fun f => f != "input_type" && f != "output_type" && f != "metadata"
  match kind with
  | "Input" | "Output" => plain ++ ["type", "shape"]
  | "Flatten" => plain ++ ["type", "input_type"]
  | _ => plain ++ ["type"]

/-- For every whitelisted class the names `storedNames` computes from the generated field table (`storedNames` is the
function above, written in this file; it is not `toDict`) are the documented ones, `Spec.docNames`, in the same order —
no `output_type` anywhere, `input_type` for Flatten only. -/
theorem names : ∀ kind ∈ Generated.whitelist, some (storedNames kind) = lookup kind Spec.docNames := by
  decide +kernel

/-- every class of the documented table is whitelisted (`names` is the converse) -/
theorem names_cover : Spec.docNames.map Prod.fst = ["Affine", "Linear", "Scale", "Threshold", "Delay", "I", "IF", "LI",
    "LIF", "CubaLIF", "Conv1d", "Conv2d", "SumPool2d", "AvgPool2d", "Flatten", "Input", "Output", "NIRGraph"] ∧
    ∀ k ∈ Spec.docNames.map Prod.fst, k ∈ Generated.whitelist := by
  decide +kernel

/-- the dictionary of a leaf node without class-specific override has exactly its fields,
`metadata` and `type` as keys, in that order -/
theorem toDict_keys_generic (kind : String) (fields : List (String × Val)) (it ot md : Val)
    (hk : kind ≠ "NIRGraph" ∧ kind ≠ "Input" ∧ kind ≠ "Output" ∧ kind ≠ "Flatten") :
    toDict (Node.mk kind fields it ot md [] []) = .ok (.dict (fields ++ [("metadata", md), ("type", .str kind)])) :=
  Lemmas.toDict_generic kind fields it ot md hk

/-- The root of a written file holds exactly the group `node` and the string dataset
`version`, and `read_version` returns the version that was written. -/
theorem root (version : String) (g : Node) (f : H5) (h : write version g = .ok f) :
    (∃ node, f = .group [("node", .group node), ("version", .dset (.str version))]) ∧
    readVersion f = .ok version := by
  obtain ⟨_, node, _, _, rfl⟩ := Lemmas.write_ok h
  exact ⟨⟨node, rfl⟩, rfl⟩

/-- Edges are stored as an n-by-2 array of strings in edge order; an empty edge list as the
empty float64 dataset. -/
theorem edges_layout (edges : List Edge) :
    h5Create (edgesVal edges) =
      if edges.isEmpty then some (.num DType.float64 [0] [])
      else some (.strs [edges.length, 2] (edges.flatMap fun e => [e.1, e.2])) := by
  cases edges with
  | nil => simp [edgesVal, h5Create]
  | cons e rest =>
    have hall : ((e :: rest).map fun e : Edge => Val.tuple [.str e.1, .str e.2]).all isStrVal = false := by
      simp [isStrVal]
    have hrows : ∀ l : List Edge, (l.map fun e : Edge => Val.tuple [.str e.1, .str e.2]).filterMap strPair?
        = l.map fun e => [e.1, e.2] := fun l => by
      rw [List.filterMap_map]; exact congrFun (List.filterMap_eq_map (f := fun e : Edge => [e.1, e.2])) l
    simp only [edgesVal, h5Create, hall, List.isEmpty_cons, Bool.false_eq_true, if_false, hrows, List.length_map,
      beq_self_eq_true, if_true, List.flatMap]
    simp

/-- strings are stored as (variable-length UTF-8) string datasets, arrays with their own
dtype and shape, Python ints as int64 scalars -/
theorem value_layout (s : String) (hs : ¬ s.toList.contains (Char.ofNat 0)) (dt : DType) (sh : List Nat) (d : Bytes)
    (hdt : dt.kind ≠ .object ∧ dt.kind ≠ .unicodeU) (i : Int) (hi : fitsInt DType.int64 i = true) :
    h5Create (.str s) = some (.str s) ∧ h5Create (.arr dt sh d) = some (.num dt sh d) ∧
    h5Create (.int i) = some (.num DType.int64 [] (encodeInt DType.int64 i)) :=
  ⟨Lemmas.h5Create_str s hs, Lemmas.h5Create_arr dt sh d hdt, Lemmas.h5Create_int i hi⟩

end NirVerif.C03
