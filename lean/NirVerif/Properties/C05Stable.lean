import NirVerif.Properties.C05
import NirVerif.Properties.C01
import NirVerif.Properties.C13

/-! # C05 (continued) — declared types are stable under the round trips

"The same holds for a node after it has been through a file or dict round trip": for the
classes whose constructor stores its parameters unchanged the node that comes back *is* the
original node (C13 `roundtrip_exact`, C01 `leaf_exact`), so in particular its declared input and
output types are the ones C05 describes. -/
namespace NirVerif.C05
open NirVerif NirVerif.Py NirVerif.Model NirVerif.Lemmas

/-- declared types survive `from_dict(to_dict(n))` -/
theorem stable_dict (kind : String) (kw : List (String × Val)) (n : Node) (hk : kind ∈ simpleKinds)
    (h : construct kind kw = .ok n)
    (hnot : lookup "input_type" kw = none ∧ lookup "output_type" kw = none) :
    ∃ n', (toDict n).bind fromDict = .ok n' ∧ n'.inputType = n.inputType ∧ n'.outputType = n.outputType :=
  ⟨n, C13.roundtrip_exact kind kw n hk h hnot, rfl, rfl⟩

/-- declared types survive `read(write(n))` (file-native parameter values, empty metadata) -/
theorem stable_file (version kind : String) (kw : List (String × Val)) (n : Node) (hk : kind ∈ simpleKinds)
    (h : construct kind kw = .ok n)
    (hnot : lookup "input_type" kw = none ∧ lookup "output_type" kw = none)
    (hmeta : n.metadata = .dict [])
    (hnative : ∀ k v, lookup k n.fields = some v → backVal v = some v)
    (f : H5) (hwr : write version n = .ok f) :
    ∃ n', read f = .ok n' ∧ n'.inputType = n.inputType ∧ n'.outputType = n.outputType :=
  ⟨n, C01.leaf_exact version kind kw n hk h hnot hmeta hnative f hwr, rfl, rfl⟩

end NirVerif.C05
