import NirVerif.Properties.C18
import NirVerif.Generated.FromDictShape
import NirVerif.Generated.Whitelist

/-! # C18 — the shape of `from_dict`, as the source states it (translator item T20)

`C18.construct_missing` / `construct_extra` / `fromDict_generic` are about a model in which the generic `from_dict` hands
**every** entry of the dictionary to the constructor (so a missing mandatory field and a non-field entry both raise), and in
which only four whitelisted classes treat particular keys before that.  T20 checks on every run that the source has that
shape: the generic classmethod is `assert node["type"] == cls.__name__; del node["type"]; return cls(**node)`, `dict2NIRNode`
is `str2NIRNode(data_dict["type"]).from_dict(data_dict)`, and it regenerates, per overriding class, the keys the override
assigns and deletes — an override that does anything else to the dictionary (`setdefault`, `pop`, filtering unknown
entries, filling defaults) is refused. -/
namespace NirVerif.C18
open NirVerif

/-- the generic path is strict, and among the admitted classes exactly four override it, touching exactly these keys -/
theorem fromDict_generated :
    Generated.genericFromDictStrict = true ∧
    Generated.fromDictOverrides.filter (fun r => Generated.whitelist.contains r.1) =
      [("Flatten", ["input_type"], []), ("NIRGraph", ["nodes", "edges"], []),
       ("Input", ["input_type"], ["shape"]), ("Output", ["output_type"], ["shape"])] := by
  decide +kernel

/-- every other admitted class is read by the generic, strict classmethod -/
theorem generic_classes_generated :
    ∀ c ∈ Generated.whitelist, c ∉ ["Flatten", "NIRGraph", "Input", "Output"] →
      ∀ r ∈ Generated.fromDictOverrides, r.1 ≠ c := by
  decide +kernel

end NirVerif.C18
