import NirVerif.Lemmas.FromList
import NirVerif.Generated.UniqueName

/-! # C11 — from_list builds exactly the sequential path graph

About `Model.fromList` (hand-written model, tied to `NIRGraph.from_list` by the `graphs`
correspondence suite).  `Generated.whitelist` ties the set of class names to the source, and
`Generated.uniqueNameGen` / `nameCounterStep` (translator item T8) are regenerated from the f-string and the counter
increment of `unique_node_name` on every run: `name_generated` below checks the model's naming function against
them, for every class name and every index. -/
namespace NirVerif.C11
open NirVerif NirVerif.Py NirVerif.Model NirVerif.Lemmas NirVerif.Lemmas.FromList

/-- **The naming function of the source is the model's**: for every base name and every repetition index the name the
(regenerated) f-string of `unique_node_name` produces is `Model.uniqueName`, and the per-class counter advances by one. -/
theorem name_generated (b : String) (k : Nat) :
    Generated.uniqueNameGen b k = uniqueName b k ∧ Generated.nameCounterStep = 1 := by
  refine ⟨?_, rfl⟩
  unfold Generated.uniqueNameGen uniqueName
  by_cases h : k > 0
  · simp only [h, if_true, String.append_assoc]
  · simp only [h, if_false, String.append_empty]

/-- The naming scheme `lower-cased class name [_k]` is injective at *string* level on
(class, repetition index), for all 18 serialisable classes and every index (i / if / li /
lif prefixes, ≥ 10 repetitions included). -/
theorem names_injective (b1 b2 : String) (k1 k2 : Nat) (h1 : b1 ∈ baseNames) (h2 : b2 ∈ baseNames)
    (h : uniqueName b1 k1 = uniqueName b2 k2) : b1 = b2 ∧ k1 = k2 :=
  uniqueName_injective h1 h2 h

/-- Names are pairwise distinct for every sequence and every repetition pattern. -/
theorem names_distinct (ns : List Node) (hk : ∀ n ∈ ns, n.kind ∈ Generated.whitelist) :
    ((assignNames ns []).map Prod.fst).Nodup :=
  assignNames_nodup ns [] hk

/-- The node in position `pre.length` is named `<class>` if it is the first of its class and
`<class>_k` if `k ≥ 1` nodes of its class precede it. -/
theorem names_scheme (pre : List Node) (n : Node) (post : List Node) :
    ((assignNames (pre ++ n :: post) []).map Prod.fst)[pre.length]? =
      some (uniqueName n.kind.toLower (pre.countP (fun m => m.kind.toLower == n.kind.toLower))) := by
  have := names_scheme_aux pre n post []
  simpa [lookup] using this

/-- Input only in first position, Output only in last position, all kinds serialisable. -/
structure Admissible (first : Node) (rest : List Node) : Prop where
  kinds : ∀ n ∈ first :: rest, n.kind ∈ Generated.whitelist
  inputOnlyFirst : ∀ n ∈ rest, n.kind ≠ "Input"
  outputOnlyLast : ∀ n ∈ (first :: rest).dropLast, n.kind ≠ "Output"

/-- `from_list` builds exactly the sequential path graph: the given nodes, once each and in
order, preceded by an Input carrying the first node's input type unless the first already is
an Input, followed by an Output carrying the last node's output type unless the last already
is an Output; names pairwise distinct and following the scheme; edges the chain of
consecutive names. -/
theorem shape (first : Node) (rest : List Node) (adm : Admissible first rest)
    (ikvs okvs : List (String × Val)) (iv ov : Val)
    (hfi : first.inputType = .dict ikvs) (hfi' : lookup "input" ikvs = some iv)
    (hlo : ((first :: rest).getLast (by simp)).outputType = .dict okvs) (hlo' : lookup "output" okvs = some ov) :
    let ns := first :: rest
    let last := ns.getLast (by simp)
    let autoIn : Nodes := if first.isKind "Input" then []
      else [("input", Node.mk "Input" [] first.inputType (typeDict "output" iv) (.dict []) [] [])]
    let autoOut : Nodes := if last.isKind "Output" then []
      else [("output", Node.mk "Output" [] (typeDict "input" ov) last.outputType (.dict []) [] [])]
    let children := autoIn ++ assignNames ns [] ++ autoOut
    let keys := children.map Prod.fst
    fromList ns = .ok (mkGraph children (keys.zip keys.tail)) ∧
      children.map Prod.snd = autoIn.map Prod.snd ++ ns ++ autoOut.map Prod.snd ∧ keys.Nodup := by
  intro ns last autoIn autoOut children keys
  -- the two reserved names go to nodes of the two reserved classes only, and those stand at the two ends only
  have hin : ¬first.isKind "Input" → "input" ∉ (assignNames ns []).map Prod.fst := fun hf =>
    input_not_assigned adm.kinds (List.forall_mem_cons.mpr ⟨fun e => hf (beq_iff_eq.mpr e), adm.inputOnlyFirst⟩)
  have hout : ¬last.isKind "Output" → "output" ∉ (assignNames ns []).map Prod.fst := fun hl =>
    output_not_assigned adm.kinds fun n hn => by
      rw [← List.dropLast_concat_getLast (l := ns) (by simp [ns]), List.mem_append, List.mem_singleton] at hn
      rcases hn with hn | rfl
      · exact adm.outputOnlyLast n hn
      · exact fun e => hl (beq_iff_eq.mpr e)
  have hkeys : keys.Nodup := path_keys_nodup (assignNames_nodup ns [] adm.kinds) hin hout
  exact ⟨fromList_path hfi hfi' hlo hlo' hkeys, by simp [children, assignNames_snd], hkeys⟩


/-- Non-vacuity: LIF, LI, LIF, I on a concrete sequence: names lif, li, lif_1, i. -/
example : (assignNames [Node.mk "LIF" [] .none .none .none [] [], Node.mk "LI" [] .none .none .none [] [],
    Node.mk "LIF" [] .none .none .none [] [], Node.mk "I" [] .none .none .none [] []] []).map Prod.fst
    = ["lif", "li", "lif_1", "i"] := by decide +kernel

end NirVerif.C11
