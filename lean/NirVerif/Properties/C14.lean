import NirVerif.Properties.C08
import NirVerif.Properties.C10
import NirVerif.Properties.C01
import NirVerif.Properties.C13

/-! # C14 — type inference commutes with serialisation

A corollary of C08: inference computes *the* typing `τ` of any graph that `τ` is locally
consistent with — so whatever a round trip does to the erasable annotations (the file carries
Conv `input_shape`, Flatten input, Input/Output shapes; it never carries pooling types), as
long as the graph that comes back is still locally consistent with `τ`, inferring it gives the
same types as inferring the original.  The second half discharges that condition for the model's
round trips; that the real `write`/`read` and `to_dict`/`from_dict` behave like the model's is what
the `histories` suite checks, on operation histories of length ≤ 4. -/
namespace NirVerif.C14
open NirVerif NirVerif.Py NirVerif.Model NirVerif.Lemmas

/-- the hypotheses of `C08.restore`, bundled -/
structure Inferable (g : Node) (τ : String → List Int × List Int) : Prop where
  keys : (g.children.map Prod.fst).Nodup
  flat : FlatEdges g
  leaf : ∀ k n, lookup k g.children = some n → n.isKind "NIRGraph" = false
  hasInput : (graphInputs g).isEmpty = false
  reach : ∀ k n, lookup k g.children = some n →
    n.isKind "Input" = true ∨ Reach g.edges ((graphInputs g).map Prod.fst) k
  typing : C08.LocalTyping g τ

/-- **Commutation**: if `g` and `g'` — think of the original and of what a history of round trips
and inferences made of it — are both locally consistent with the typing `τ`, then inferring `g'`
gives every node name they share the same input and output shapes as inferring `g` (that they are `τ`'s is
`C08.restore`; the statement here only equates them). -/
theorem commute (g g' : Node) (τ : String → List Int × List Int)
    (hg : Inferable g τ) (hg' : Inferable g' τ) (k : String) (n0 n0' : Node)
    (hk : lookup k g.children = some n0) (hk' : lookup k g'.children = some n0') :
    ∃ n n', lookup k (inferTypes g).1.children = some n ∧ lookup k (inferTypes g').1.children = some n' ∧
      Spec.portShape n.inputType = Spec.portShape n'.inputType ∧
      Spec.portShape n.outputType = Spec.portShape n'.outputType ∧
      (inferTypes g).2 = none ∧ (inferTypes g').2 = none := by
  obtain ⟨s1, t1, _⟩ := C08.restore g τ hg.keys hg.flat hg.leaf hg.hasInput hg.reach hg.typing
  obtain ⟨s2, t2, _⟩ := C08.restore g' τ hg'.keys hg'.flat hg'.leaf hg'.hasInput hg'.reach hg'.typing
  obtain ⟨n, hn, h1, h2⟩ := t1 k n0 hk
  obtain ⟨n', hn', h1', h2'⟩ := t2 k n0' hk'
  exact ⟨n, n', hn, hn', by rw [h1, h1'], by rw [h2, h2'], s1, s2⟩

/-- the hypotheses of `C08.restore_keyed`, bundled: every node is an Input, an Output, an
annotated primitive, or a Flatten / Conv1d / Conv2d / pooling node whose types are erased -/
structure InferableK (g : Node) (τ : String → List Int × List Int) : Prop where
  keys : (g.children.map Prod.fst).Nodup
  flat : FlatEdges g
  leaf : ∀ k n, lookup k g.children = some n → n.isKind "NIRGraph" = false
  hasInput : (graphInputs g).isEmpty = false
  reach : ∀ k n, lookup k g.children = some n →
    n.isKind "Input" = true ∨ Reach g.edges ((graphInputs g).map Prod.fst) k
  nodes : ∀ k n, lookup k g.children = some n → C08.NodeOKK n (τ k)
  sources : ∀ k n, lookup k g.children = some n → n.isKind "Input" = true → HasTypesK n (τ k)
  consistent : ∀ e ∈ g.edges, (τ e.1).2 = (τ e.2).1

/-- **Commutation, with the edge-local condition discharged**: whatever subset of the erasable
annotations (Output shapes, input sides, Flatten output, Conv1d/Conv2d types, pooling types —
the last never survive a file round trip) is erased in `g` and whatever *other* subset in `g'`,
inferring either gives every node the types `τ`. -/
theorem commute_keyed (g g' : Node) (τ : String → List Int × List Int)
    (hg : InferableK g τ) (hg' : InferableK g' τ) (k : String) (n0 n0' : Node)
    (hk : lookup k g.children = some n0) (hk' : lookup k g'.children = some n0') :
    ∃ n n', lookup k (inferTypes g).1.children = some n ∧ lookup k (inferTypes g').1.children = some n' ∧
      HasTypesK n (τ k) ∧ HasTypesK n' (τ k) ∧
      (inferTypes g).2 = none ∧ (inferTypes g').2 = none ∧
      checkTypes (inferTypes g).1 = .ok true ∧ checkTypes (inferTypes g').1 = .ok true := by
  obtain ⟨s1, t1, c1⟩ := C08.restore_keyed g τ hg.keys hg.flat hg.leaf hg.hasInput hg.reach hg.nodes hg.sources hg.consistent
  obtain ⟨s2, t2, c2⟩ := C08.restore_keyed g' τ hg'.keys hg'.flat hg'.leaf hg'.hasInput hg'.reach hg'.nodes hg'.sources hg'.consistent
  obtain ⟨n, hn, h1⟩ := t1 k n0 hk
  obtain ⟨n', hn', h1'⟩ := t2 k n0' hk'
  exact ⟨n, n', hn, hn', h1, h1', s1, s2, c1, c2⟩

/-- `C10.idempotent_partial` restated: a graph every edge of which is a fixed point of the loop body is a fixed
point of `infer_types`.  That a successfully inferred graph is such a graph is `C10.idempotent_consistent`, on the
C08 domain only. -/
theorem inferred_is_stable (g : Node) (hin : (graphInputs g).isEmpty = false)
    (hmirror : g.inputType = graphInputType g.children ∧ g.outputType = graphOutputType g.children)
    (hstable : ∀ e ∈ g.edges, ∃ preN postN, lookup e.1 g.children = some preN ∧ lookup e.2 g.children = some postN ∧
      preN.isKind "NIRGraph" = false ∧ postN.isKind "NIRGraph" = false ∧ stepNode preN postN = (postN, none)) :
    inferTypes g = (g, none) :=
  C10.idempotent_partial g hin hmirror hstable

/-! ## the model's round trips return a graph inference treats alike

The condition of `commute_keyed` is discharged inside the model, from the exactness theorems of C13 and C01.  The
dictionary form gives back `g` itself; the file lists the nodes by name, so the node dictionary comes back permuted, and
neither inference nor the type check depends on its order.

Not proved here: that the real `read` / `from_dict` behave like the model's (the correspondence, `histories` suite); and,
through a file, anything outside `C01.FileExact` — Flatten, CubaLIF and nested-graph nodes, metadata on a node or on the
graph, parameter values the file does not hand back unchanged. -/

theorem lookup_perm {α : Type} {a b : List (String × α)} (h : a.Perm b) (ha : (a.map Prod.fst).Nodup) (k : String) :
    lookup k a = lookup k b :=
  Lemmas.lookup_perm h ha k

theorem mem_inputs_perm {cs children : Nodes} (hperm : cs.Perm children) (a : String) :
    a ∈ (cs.filter (fun kv => kv.2.isKind "Input")).map Prod.fst ↔
    a ∈ (children.filter (fun kv => kv.2.isKind "Input")).map Prod.fst :=
  ((hperm.filter _).map Prod.fst).mem_iff

/-- local consistency with a typing does not depend on the order of the node dictionary -/
theorem inferableK_perm (g g' : Node) (τ : String → List Int × List Int)
    (hperm : g'.children.Perm g.children) (hedges : g'.edges = g.edges) (h : InferableK g τ) : InferableK g' τ := by
  have hk' : (g'.children.map Prod.fst).Nodup := (hperm.map Prod.fst).nodup_iff.mpr h.keys
  have hl : ∀ k, lookup k g'.children = lookup k g.children := lookup_perm hperm hk'
  refine ⟨hk', fun e he => ?_, fun k n hn => h.leaf k n (hl k ▸ hn), (hperm.filter _).isEmpty_eq.trans h.hasInput,
    fun k n hn => ?_, fun k n hn => h.nodes k n (hl k ▸ hn), fun k n hn => h.sources k n (hl k ▸ hn),
    hedges ▸ h.consistent⟩
  · obtain ⟨a, b, h1, h2, h3⟩ := h.flat e (hedges ▸ he)
    exact ⟨a, b, (hl _).trans h1, (hl _).trans h2, h3⟩
  · refine (h.reach k n (hl k ▸ hn)).imp_right fun hr => ?_
    rw [hedges]
    exact hr.mono fun a ha => (mem_inputs_perm hperm a).mpr ha

/-- **The dictionary round trip commutes with inference, outright**: for a graph (nested to any depth) whose leaves the
dictionary form reproduces exactly, inferring `from_dict(to_dict(g))` is inferring `g`. -/
theorem dict_roundtrip_commutes (g : Node) (h : ExactTree g) :
    ∃ g', (toDict g).bind fromDict = .ok g' ∧ inferTypes g' = inferTypes g :=
  ⟨g, C13.nested_roundtrip_exact g h, rfl⟩

/-- **The file round trip commutes with inference**: a flat graph of file-exact nodes that is consistent with `τ`; whenever
it is written and read back, inferring what comes back gives every node the types `τ` — as inferring the original does —
without error, and both results pass the type check. -/
theorem file_roundtrip_commutes (version : String) (children : Nodes) (edges : List Edge) (it ot : Val)
    (τ : String → List Int × List Int)
    (hex : ∀ k n, lookup k children = some n → C01.FileExact n)
    (hinf : InferableK (Node.mk "NIRGraph" [] it ot (.dict []) children edges) τ)
    (f : H5) (hwr : write version (Node.mk "NIRGraph" [] it ot (.dict []) children edges) = .ok f)
    (g' : Node) (hrd : read f = .ok g') :
    InferableK g' τ ∧
    ∀ k n0, lookup k children = some n0 →
      ∃ n n', lookup k (inferTypes (Node.mk "NIRGraph" [] it ot (.dict []) children edges)).1.children = some n ∧
        lookup k (inferTypes g').1.children = some n' ∧ HasTypesK n (τ k) ∧ HasTypesK n' (τ k) ∧
        (inferTypes (Node.mk "NIRGraph" [] it ot (.dict []) children edges)).2 = none ∧ (inferTypes g').2 = none ∧
        checkTypes (inferTypes (Node.mk "NIRGraph" [] it ot (.dict []) children edges)).1 = .ok true ∧
        checkTypes (inferTypes g').1 = .ok true := by
  obtain ⟨cs, rfl, hperm⟩ := C01.graph_file_exact version children edges it ot hinf.keys hex f hwr g' hrd
  have hg' := inferableK_perm (Node.mk "NIRGraph" [] it ot (.dict []) children edges) (mkGraph cs edges (.dict [])) τ hperm rfl hinf
  exact ⟨hg', fun k n0 hk => commute_keyed _ _ τ hinf hg' k n0 n0 hk ((lookup_perm hperm hg'.keys k).trans hk)⟩

/-- **The type check commutes with the file round trip**: for a flat graph of file-exact nodes — consistent or not — whatever
`read(write(g))` returns gets the same verdict as `g`: `True`, or the same first error in edge order. -/
theorem check_file_roundtrip (version : String) (children : Nodes) (edges : List Edge) (it ot : Val)
    (hkeys : (children.map Prod.fst).Nodup)
    (hex : ∀ k n, lookup k children = some n → C01.FileExact n)
    (f : H5) (hwr : write version (Node.mk "NIRGraph" [] it ot (.dict []) children edges) = .ok f)
    (g' : Node) (hrd : read f = .ok g') :
    checkTypes g' = checkTypes (Node.mk "NIRGraph" [] it ot (.dict []) children edges) := by
  obtain ⟨cs, rfl, hperm⟩ := C01.graph_file_exact version children edges it ot hkeys hex f hwr g' hrd
  exact checkTypes_rel (lookup_perm hperm ((hperm.map Prod.fst).nodup_iff.mpr hkeys)) rfl

/-- **Inference does not see the order of the node dictionary**: two graphs with the same edges whose node dictionaries are
permutations of each other (no repeated names) infer with the same error, and to node tables in which every name holds the
same node — consistent graphs or not. -/
theorem infer_perm (kd kd' : String) (fl fl' : List (String × Val)) (it ot md it' ot' md' : Val) (c1 c2 : Nodes)
    (edges : List Edge) (hperm : c1.Perm c2) (hk : (c2.map Prod.fst).Nodup) :
    (inferTypes (Node.mk kd fl it ot md c1 edges)).2 = (inferTypes (Node.mk kd' fl' it' ot' md' c2 edges)).2 ∧
    SameLookups (inferTypes (Node.mk kd fl it ot md c1 edges)).1.children
                (inferTypes (Node.mk kd' fl' it' ot' md' c2 edges)).1.children := by
  have hl : SameLookups c1 c2 := lookup_perm hperm ((hperm.map Prod.fst).nodup_iff.mpr hk)
  have hemp : (graphInputs (Node.mk kd fl it ot md c1 edges)).isEmpty = (graphInputs (Node.mk kd' fl' it' ot' md' c2 edges)).isEmpty :=
    (hperm.filter _).isEmpty_eq
  obtain ⟨hr, he⟩ := forward_rel edges hl (mem_inputs_perm hperm)
  cases hc : (graphInputs (Node.mk kd' fl' it' ot' md' c2 edges)).isEmpty with
  | true => rw [inferTypes_of_no_inputs hc, inferTypes_of_no_inputs (hemp.trans hc)]; exact ⟨rfl, hl⟩
  | false => rw [inferTypes_of_inputs hc, inferTypes_of_inputs (hemp.trans hc)]; exact ⟨(congrArg Prod.snd he :), hr⟩

/-- **The file round trip commutes with inference on every flat file-exact graph** — consistent or not: whatever
`read(write(g))` returns infers with the same error as `g`, and every name ends up holding the same node. -/
theorem file_roundtrip_infer_any (version : String) (children : Nodes) (edges : List Edge) (it ot : Val)
    (hkeys : (children.map Prod.fst).Nodup)
    (hex : ∀ k n, lookup k children = some n → C01.FileExact n)
    (f : H5) (hwr : write version (Node.mk "NIRGraph" [] it ot (.dict []) children edges) = .ok f)
    (g' : Node) (hrd : read f = .ok g') :
    (inferTypes g').2 = (inferTypes (Node.mk "NIRGraph" [] it ot (.dict []) children edges)).2 ∧
    ∀ k, lookup k (inferTypes g').1.children =
         lookup k (inferTypes (Node.mk "NIRGraph" [] it ot (.dict []) children edges)).1.children := by
  obtain ⟨cs, hg, hperm⟩ := C01.graph_file_exact version children edges it ot hkeys hex f hwr g' hrd
  rw [hg]
  exact infer_perm "NIRGraph" "NIRGraph" [] [] _ _ _ it ot (.dict []) cs children edges hperm hkeys

/-! ## Non-vacuity: the Input → LIF → Output graph of `C01` (with a recurrent edge) meets every hypothesis -/

def exG : Node := Node.mk "NIRGraph" [] (graphInputType C01.exChildren) (graphOutputType C01.exChildren) (.dict [])
  C01.exChildren C01.exEdges
def exTau : String → List Int × List Int := fun _ => ([2], [2])

theorem ex_inferable : InferableK exG exTau := by
  have hty : ∀ n : Node, n.inputType = typeDict "input" (Val.ofInts [2]) → n.outputType = typeDict "output" (Val.ofInts [2]) →
      HasTypesK n ([2], [2]) := fun n h1 h2 => hasTypesK_ofInts h1 h2 (by decide) (by decide)
  refine ⟨by decide, flatEdges_of_keys (by decide) (by decide), forall_lookup (by decide), by decide,
    reach_of_order ["lif", "out"] (by decide) (by decide), ?_, ?_, by decide⟩
  · intro k n h
    rcases C01.ex_lookup k n h with ⟨_, rfl⟩ | ⟨_, rfl⟩ | ⟨_, rfl⟩
    · exact C08.nodeOKK_of_typed (by decide) (hty _ rfl rfl)
    · exact C08.nodeOKK_of_typed (by decide) (hty _ rfl rfl)
    · exact ⟨⟨_, rfl, portVal_of_shape C08.ex_shape, wf_ofInts _⟩, Or.inr (Or.inl ⟨rfl, rfl⟩)⟩
  · intro k n h hk
    rcases C01.ex_lookup k n h with ⟨_, rfl⟩ | ⟨_, rfl⟩ | ⟨_, rfl⟩
    · exact hty _ rfl rfl
    all_goals cases hk

/-- the hypotheses of `file_roundtrip_commutes` are met by a graph that is written and read back -/
example : ∃ f g', write "0.2.0" exG = .ok f ∧ read f = .ok g' ∧ InferableK g' exTau ∧
    (inferTypes g').2 = none ∧ checkTypes (inferTypes g').1 = .ok true := by
  obtain ⟨f, g', hf, hg⟩ := C01.ex_roundtrip
  obtain ⟨hinf', hall⟩ := file_roundtrip_commutes "0.2.0" C01.exChildren C01.exEdges _ _ exTau C01.ex_fileExact ex_inferable
    f hf g' hg
  obtain ⟨_, _, _, _, _, _, _, h6, _, h8⟩ := hall "lif" C01.exLif rfl
  exact ⟨f, g', hf, hg, hinf', h6, h8⟩

end NirVerif.C14
