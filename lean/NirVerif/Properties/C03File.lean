import NirVerif.Properties.C03
import NirVerif.Lemmas.ChildBack
import NirVerif.Lemmas.FromList
import NirVerif.Properties.C01

/-! # C03 (continued) — the whole file, at every depth: exactly the documented members, nothing else

`file_exact` states `Lemmas.Encodes` (file `Lemmas/FileForm.lean`) for the whole file `nir.write` produces, for **every**
node or graph (any nesting depth, any metadata); the corollaries spell out what that means for a primitive's group and
for a graph's group, in the vocabulary of the published layout. -/
namespace NirVerif.C03
open NirVerif NirVerif.Py NirVerif.Model NirVerif.Lemmas

/-- **The whole file.**  Whenever `nir.write` succeeds, the file holds exactly `version` and `node`, and the `node`
group is exactly the encoding of `to_dict()` of what was written — recursively, at every depth. -/
theorem file_exact (version : String) (g : Node) (f : H5) (h : write version g = .ok f) :
    ∃ kvs ng n, toDict g = .ok (.dict kvs) ∧
      f = .group [("node", .group ng), ("version", .dset (.str version))] ∧ Encodes n kvs ng := by
  obtain ⟨kvs, node, hd, hw, rfl⟩ := write_ok h
  exact ⟨kvs, node, _, hd, rfl, write_encodes _ _ _ hw⟩

/-- the clauses of `Encodes` read at the keys of one node's dictionary (a graph's has this form, with `nodes` and `edges`
for fields) -/
theorem group_of_fields {n : Nat} {fields : List (String × Val)} {md : Val} {kind : String} {ng : List (String × H5)}
    (hnm : lookup "metadata" fields = none) (hnt : lookup "type" fields = none)
    (h : Encodes n (fields ++ [("metadata", md), ("type", .str kind)]) ng) :
    (ng.map Prod.fst).Nodup ∧
    lookup "type" ng = some (.dset (.str kind)) ∧
    (∀ k v, lookup k fields = some v → (∀ d, v ≠ .dict d) → ∃ ds, h5Create v = some ds ∧ lookup k ng = some (.dset ds)) ∧
    (md = .dict [] → lookup "metadata" ng = none) ∧
    (∀ k, lookup k fields = none → k ≠ "type" → k ≠ "metadata" → lookup k ng = none) := by
  have hlk := leafDict_lookup fields [] md kind
  refine ⟨h.nodup, h.type (by rw [hlk, hnt]; rfl), fun k v hkv => h.dset (by rw [hlk, hkv]; rfl) ?_, fun hmd => ?_,
    fun k hkf hkt hkm => h.absent (by rw [hlk, hkf, if_neg hkm, if_neg hkt]; rfl)⟩
  · rintro rfl; rw [hnm] at hkv; cases hkv
  · subst hmd; exact h.no_meta (leafDict_meta hnm (by simp))

/-- **A primitive's group** (any class without a class-specific dictionary form; `names` relates the field names to
the documented ones): the `type` dataset names the class; every parameter is a dataset under its own name holding
what `create_dataset` makes of the value; empty metadata leaves no member; and a name that is neither a parameter,
`type` nor `metadata` is **not present**. -/
theorem leaf_group (kind : String) (fields : List (String × Val)) (it ot md : Val)
    (hk : kind ≠ "NIRGraph" ∧ kind ≠ "Input" ∧ kind ≠ "Output" ∧ kind ≠ "Flatten")
    (hf : "metadata" ∉ fields.map Prod.fst ∧ "type" ∉ fields.map Prod.fst)
    (version : String) (f : H5) (h : write version (Node.mk kind fields it ot md [] []) = .ok f) :
    ∃ ng, f = .group [("node", .group ng), ("version", .dset (.str version))] ∧
      (ng.map Prod.fst).Nodup ∧
      lookup "type" ng = some (.dset (.str kind)) ∧
      (∀ k v, lookup k fields = some v → (∀ d, v ≠ .dict d) →
          ∃ ds, h5Create v = some ds ∧ lookup k ng = some (.dset ds)) ∧
      (md = .dict [] → lookup "metadata" ng = none) ∧
      (∀ k, lookup k fields = none → k ≠ "type" → k ≠ "metadata" → lookup k ng = none) := by
  obtain ⟨kvs, ng, n, hd, hfile, henc⟩ := file_exact version _ f h
  cases (toDict_keys_generic kind fields it ot md hk).symm.trans hd
  exact ⟨ng, hfile, group_of_fields (lookup_eq_none_of_not_mem _ _ hf.1) (lookup_eq_none_of_not_mem _ _ hf.2) henc⟩

/-- **A graph's group** (any children — primitives or nested graphs —, any edge list, any metadata): the `type`
dataset says `NIRGraph`; `edges` is the dataset `edges_layout` describes; `nodes` is a group holding, for every child,
a sub-group under the child's name that is exactly the encoding of the child's own dictionary form (recursively:
`Encodes`), and no link under any other name; and the graph's group holds nothing but `nodes`, `edges`, `type` and
(for non-empty metadata) `metadata`. -/
theorem graph_group (fields : List (String × Val)) (it ot md : Val) (children : Nodes) (edges : List Edge)
    (version : String) (f : H5) (h : write version (Node.mk "NIRGraph" fields it ot md children edges) = .ok f) :
    ∃ ng, f = .group [("node", .group ng), ("version", .dset (.str version))] ∧
      (ng.map Prod.fst).Nodup ∧
      lookup "type" ng = some (.dset (.str "NIRGraph")) ∧
      (∃ ds, h5Create (edgesVal edges) = some ds ∧ lookup "edges" ng = some (.dset ds)) ∧
      (md = .dict [] → lookup "metadata" ng = none) ∧
      (∀ k, k ≠ "nodes" → k ≠ "edges" → k ≠ "type" → k ≠ "metadata" → lookup k ng = none) ∧
      ∃ kids, lookup "nodes" ng = some (.group kids) ∧ (kids.map Prod.fst).Nodup ∧
        (∀ k, lookup k children = none → lookup k kids = none) ∧
        (∀ k c, lookup k children = some c → ∃ ckvs cg n, toDict c = .ok (.dict ckvs) ∧
            lookup k kids = some (.group cg) ∧ Encodes n ckvs cg) := by
  obtain ⟨kvs, ng, n, hd, hfile, henc⟩ := file_exact version _ f h
  obtain ⟨kidsD, hkvs, hk1, hk2⟩ := toDict_graph_ok hd
  cases hkvs
  obtain ⟨h1, ht, hds, hm, hno⟩ :=
    group_of_fields (fields := [("nodes", .dict kidsD), ("edges", edgesVal edges)]) rfl rfl henc
  obtain ⟨kids, m, hl, hsub⟩ := henc.sub (k := "nodes") rfl (by simp)
  refine ⟨ng, hfile, h1, ht, hds "edges" _ rfl (fun d hd' => by cases hd'), hm,
    fun k hn he => hno k (by simp [lookup_cons, lookup_nil, hn, he]), kids, hl, hsub.nodup, fun k hk => hsub.absent ?_,
    fun k c hkc => ?_⟩
  · rw [lookup_eq_none_iff] at hk ⊢
    rwa [hk1]
  · obtain ⟨d, hld, hdc⟩ := hk2 k c hkc
    obtain ⟨ckvs, rfl, hne⟩ := toDict_isDict hdc
    obtain ⟨cg, m', hcg, henc'⟩ := hsub.sub hld (fun h => hne h.2)
    exact ⟨ckvs, cg, m', hdc, hcg, henc'⟩

/-- Non-vacuity: the Input → LIF (self-loop) → Output graph of C01 with graph-level metadata `{"k": 1}` is written
(evaluated by the kernel); `graph_group` then yields the `nodes` group with a `lif` sub-group, and no link called
`extra`. -/
example : ∃ f, write "0.2.0" (mkGraph C01.exChildren C01.exEdges (.dict [("k", .int 1)])) = .ok f ∧
    ∃ ng kids cg, f = .group [("node", .group ng), ("version", .dset (.str "0.2.0"))] ∧
      lookup "nodes" ng = some (.group kids) ∧ lookup "lif" kids = some (.group cg) ∧
      lookup "extra" kids = none ∧ lookup "extra" ng = none := by
  obtain ⟨f, hf⟩ := ok_of_toBool (x := write "0.2.0" (mkGraph C01.exChildren C01.exEdges (.dict [("k", .int 1)])))
    (by decide +kernel)
  obtain ⟨ng, h0, _, _, _, _, hno, kids, hk, _, hnone, hsome⟩ := graph_group _ _ _ _ _ _ "0.2.0" f hf
  obtain ⟨_, cg, _, _, hcg, _⟩ := hsome "lif" C01.exLif rfl
  exact ⟨f, hf, ng, kids, cg, h0, hk, hcg, hnone "extra" rfl,
    hno "extra" (by decide) (by decide) (by decide) (by decide)⟩

end NirVerif.C03
