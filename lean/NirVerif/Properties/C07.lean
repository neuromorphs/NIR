import NirVerif.Lemmas.Flatten
import NirVerif.Generated.Flatten

/-! # C07 — Flatten shape arithmetic matches array-flatten semantics

About `Generated.calcFlattenOutput`, re-derived from `nir/ir/utils.py::calc_flatten_output`
on every run. -/
namespace NirVerif.C07
open NirVerif

/-- For every shape and every valid `(start_dim, end_dim)` pair — negative indices counted
from the end — the source function merges dimensions `s..e` into their product and leaves
all others untouched. -/
theorem flatten_eq_spec (shape : List Nat) (s e : Int) (s' e' : Nat)
    (hs : Spec.normDim shape.length s = s') (he : Spec.normDim shape.length e = e')
    (hse : s' ≤ e') (her : e' < shape.length) :
    Generated.calcFlattenOutput (shape.map Int.ofNat) s e
      = (Spec.flattenShape shape s' e').map Int.ofNat := by
  unfold Generated.calcFlattenOutput Spec.flattenShape
  simp only [Lemmas.slice_map, Py.len, List.length_map, Lemmas.prod_map_ofNat]
  -- `shape[:s]`, or nothing when `s = 0`: the first `s'` dimensions either way
  have hA : (if (s != 0) = true then (Py.slice shape none (some s)).map Int.ofNat else [])
      = (shape.take s').map Int.ofNat := by
    by_cases h0 : s = 0
    · obtain rfl : s' = 0 := by unfold Spec.normDim at hs; simp [h0] at hs; omega
      simp [h0]
    · rw [Lemmas.slice_to hs (by omega)]; simp [h0]
  rw [hA]
  by_cases h1 : e = -1
  · -- the last dimension written `-1`: the middle is `shape[s:]` and there is no tail
    have he' := Lemmas.normDim_last he (Or.inl h1)
    have htake : (shape.drop s').take (e' - s' + 1) = shape.drop s' := List.take_of_length_le (by simp; omega)
    simp [h1, Lemmas.slice_from hs (by omega), htake, ← he']
  · -- otherwise `e + 1` normalises to `e' + 1`, the stop of the middle and the start of the tail
    have hE : Spec.normDim shape.length (e + 1) = (e' + 1 : Nat) := by rw [Lemmas.normDim_succ h1, he]; rfl
    rw [Lemmas.slice_mid hs hE (by omega) (by omega), show e' + 1 - s' = e' - s' + 1 by omega]
    by_cases h2 : e = (shape.length : Int) - 1
    · -- the last dimension written `len - 1`: no tail either
      simp [h2, ← Lemmas.normDim_last he (Or.inr h2)]
    · simp [h1, h2, Lemmas.slice_from hE (by omega)]

/-- The element count is preserved. -/
theorem count (shape : List Nat) (s e : Int) (s' e' : Nat)
    (hs : Spec.normDim shape.length s = s') (he : Spec.normDim shape.length e = e')
    (hse : s' ≤ e') (her : e' < shape.length) :
    Py.prod (Generated.calcFlattenOutput (shape.map Int.ofNat) s e) = Py.prod (shape.map Int.ofNat) := by
  rw [flatten_eq_spec shape s e s' e' hs he hse her, Lemmas.prod_map_ofNat, Lemmas.prod_map_ofNat,
    Lemmas.prodNat_flattenShape shape s' e' hse]

/-- The rank drops by exactly the number of merged dimensions minus one. -/
theorem rank (shape : List Nat) (s e : Int) (s' e' : Nat)
    (hs : Spec.normDim shape.length s = s') (he : Spec.normDim shape.length e = e')
    (hse : s' ≤ e') (her : e' < shape.length) :
    (Generated.calcFlattenOutput (shape.map Int.ofNat) s e).length = shape.length - (e' - s') := by
  rw [flatten_eq_spec shape s e s' e' hs he hse her]
  simp only [Spec.flattenShape, List.length_map, List.length_append, List.length_take, List.length_drop,
    List.length_cons, List.length_nil]
  omega

/-- Non-vacuity: shape (2,3,4,5), start 1, end -2  ->  (2,12,5). -/
example : Generated.calcFlattenOutput [2, 3, 4, 5] 1 (-2) = [2, 12, 5] := by decide
example : Spec.normDim 4 (-2) = (2 : Nat) ∧ (1 : Nat) ≤ 2 ∧ 2 < [2, 3, 4, 5].length := by decide

end NirVerif.C07
