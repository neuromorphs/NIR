import NirVerif.Properties.C20Crossings
import NirVerif.Generated.CubaRefReal
import NirVerif.Model.CubaRun

/-! # C20 (continued) — the CubaLIF reference is the forward-Euler update, step by step and as a whole run

About the **generated** `cubaForward` (from `paper/03_rnn/extras/debug_CubaLIF/nir_reference_impl.py`, like the LIF
kernels) and `Model.CubaRun.run` around it (hand-written model of `run_cuba_reference_model`, executed on `Float`
against the Python bit for bit).  Over ℝ. -/
namespace NirVerif.C20
open NirVerif.Generated.CubaReal NirVerif.Model.CubaRun

/-- The numpy CubaLIF reference step is exactly the forward-Euler update of the documented
equations `tau_syn * dI/dt = -I + w_in*S`, `tau_mem * dv/dt = (v_leak - v) + R*I`, with the
strict threshold `v > v_threshold` and reset by subtraction. -/
theorem cuba_euler (dt tau_syn tau_mem R vl vthr w I v x : ℝ) :
    let I' := I + dt * ((-I + w * x) / tau_syn)
    let v' := v + dt * (((vl - v) + R * I) / tau_mem)
    cubaForward dt tau_syn tau_mem R vl vthr w I v x
      = (if v' > vthr then 1 else 0, if v' > vthr then v' - vthr else v', I') := by
  -- the code multiplies by `dt / tau`, the documented update by `dt` after dividing by `tau`
  simp only [cubaForward, boolToNum, div_mul_eq_mul_div, mul_div_assoc]
  split <;> simp

/-- one step of the documented CubaLIF dynamics (the right-hand side of `cuba_euler`): (spike, new voltage, new current) -/
noncomputable def eulerStep (dt tau_syn tau_mem R vl vthr w : ℝ) (I v x : ℝ) : ℝ × ℝ × ℝ :=
  let I' := I + dt * ((-I + w * x) / tau_syn)
  let v' := v + dt * (((vl - v) + R * I) / tau_mem)
  (if v' > vthr then 1 else 0, if v' > vthr then v' - vthr else v', I')

noncomputable def eulerRun (dt tau_syn tau_mem R vl vthr w : ℝ) (I v : ℝ) : List ℝ → List (ℝ × ℝ × ℝ)
  | [] => []
  | x :: xs =>
    let r := eulerStep dt tau_syn tau_mem R vl vthr w I v x
    r :: eulerRun dt tau_syn tau_mem R vl vthr w r.2.2 r.2.1 xs

/-- the run from *any* state `(I, v)`: a model that has been used before goes on from where it stopped -/
theorem cuba_go_euler (dt tau_syn tau_mem R vl vthr w : ℝ) (xs : List ℝ) (I v : ℝ) :
    go (cubaForward dt tau_syn tau_mem R vl vthr w) I v xs = eulerRun dt tau_syn tau_mem R vl vthr w I v xs := by
  induction xs generalizing I v with
  | nil => rfl
  | cons x xs ih =>
    have h : cubaForward dt tau_syn tau_mem R vl vthr w I v x = eulerStep dt tau_syn tau_mem R vl vthr w I v x :=
      cuba_euler dt tau_syn tau_mem R vl vthr w I v x
    simp only [go, eulerRun, h, ih]

/-- **The whole reference run** — any number of time steps, any input sequence, from the zero state the constructor
sets up — returns, step by step, exactly the spikes, voltages and currents of the forward-Euler iteration of the
documented CubaLIF equations. -/
theorem cuba_run_euler (dt tau_syn tau_mem R vl vthr w : ℝ) (xs : List ℝ) :
    run (cubaForward dt tau_syn tau_mem R vl vthr w) 0 xs = eulerRun dt tau_syn tau_mem R vl vthr w 0 0 xs :=
  cuba_go_euler dt tau_syn tau_mem R vl vthr w xs 0 0

theorem go_length {α : Type} (fwd : α → α → α → α × α × α) (xs : List α) (I v : α) :
    (go fwd I v xs).length = xs.length := by
  induction xs generalizing I v with
  | nil => rfl
  | cons x xs ih => simp only [go, List.length_cons, ih]

/-- as many result rows as time steps -/
theorem cuba_run_length (dt tau_syn tau_mem R vl vthr w : ℝ) (xs : List ℝ) :
    (run (cubaForward dt tau_syn tau_mem R vl vthr w) 0 xs).length = xs.length :=
  go_length _ xs 0 0

/-- Non-vacuity: two steps with dyadic parameters (dt = 1/2, all time constants 1, R = 1, leak 0, threshold 1/4,
weight 1, input 1 then 0): current 1/2 then 1/4, voltage 0 then 1/4 — exactly on the threshold, which is *not* a
spike (strict comparison). -/
example : run (cubaForward (1/2) 1 1 1 0 (1/4) 1) 0 [1, 0] = [(0, 0, 1/2), (0, 1/4, 1/4)] := by
  rw [cuba_run_euler]
  simp only [eulerRun, eulerStep]
  norm_num

end NirVerif.C20
