import NirVerif.Properties.C03File
import NirVerif.Generated.WriteShape

/-! # C03 / C01 (continued) — the shape of `nir.write`, as the source states it

`Generated.forbiddenInNames`, `metadataKey`, `rootVersionName`, `rootNodeName` are regenerated on every run (translator
item T13) from `nir.write`: the substrings that make a key unwritable, the key whose empty dictionary is skipped, and the
two members the file root gets.  The theorems re-check the model's writer against them. -/
namespace NirVerif.C03
open NirVerif NirVerif.Py NirVerif.Model

theorem write_shape_generated :
    Generated.forbiddenInNames = ["/", "\x00"] ∧ Generated.metadataKey = "metadata" ∧
    Generated.rootVersionName = "version" ∧ Generated.rootNodeName = "node" := by
  decide +kernel

/-- the model refuses exactly the keys that contain one of the characters the source refuses -/
theorem badName_generated (k : String) :
    badName k = Generated.forbiddenInNames.any (fun s => s.toList.any (fun c => k.toList.contains c)) := by
  rw [write_shape_generated.1]
  simp [badName, List.any]

/-- the file root holds exactly the two members the source creates, under the names the source gives them -/
theorem root_generated (version : String) (g : Node) (f : H5) (h : write version g = .ok f) :
    ∃ node, f = .group [(Generated.rootNodeName, .group node), (Generated.rootVersionName, .dset (.str version))] := by
  obtain ⟨⟨node, hf⟩, _⟩ := root version g f h
  exact ⟨node, by rw [write_shape_generated.2.2.1, write_shape_generated.2.2.2]; exact hf⟩

end NirVerif.C03
