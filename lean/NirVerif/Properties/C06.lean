import NirVerif.Lemmas.Conv
import NirVerif.Generated.ConvAxis
import NirVerif.Lemmas.ConvReading

/-! # C06 — convolution / pooling output shapes are arithmetically exact

`axis` and `axis_no_fit` are about `Generated.convAxis`, which the translator re-derives from
`nir/ir/utils.py::calculate_conv_output` on every run; the second half is about the hand-written model of the
whole function. -/
namespace NirVerif.C06
open NirVerif

/-- The formula in the source equals the number of positions at which the dilated kernel
fits inside the zero-padded input when stepped by the stride — whenever it fits at all. -/
theorem axis (n p d k s : Nat) (hs : 0 < s) (hk : 1 ≤ k) (hfit : Spec.span d k ≤ n + 2 * p) :
    Generated.convAxis n p d k s = (Spec.slide (n + 2 * p) (Spec.span d k) s hs : Int) := by
  rw [Lemmas.convAxis_nat n p d hs hk, Lemmas.slide_eq hs hfit, ← Nat.cast_sub hfit]
  norm_cast

/-- When the kernel does not fit even once there are no positions, and the formula
reports a non-positive size (never a spurious positive one). -/
theorem axis_no_fit (n p d k s : Nat) (hs : 0 < s) (hk : 1 ≤ k) (hfit : ¬ Spec.span d k ≤ n + 2 * p) :
    Generated.convAxis n p d k s ≤ 0 ∧ Spec.slide (n + 2 * p) (Spec.span d k) s hs = 0 := by
  refine ⟨?_, Lemmas.slide_eq_zero hs hfit⟩
  rw [Lemmas.convAxis_nat n p d hs hk]
  have := Int.ediv_neg_of_neg_of_pos (show ((n + 2 * p : Nat) : Int) - (Spec.span d k : Nat) < 0 by omega)
    (by exact_mod_cast hs : (0 : Int) < s)
  omega

/-- Non-vacuity: dilation 2, kernel 3, stride 2, padding 1 on 9 cells: 4 positions. -/
example : Generated.convAxis 9 1 2 3 2 = 4 ∧ Spec.slide 11 (Spec.span 2 3) 2 (by decide) = 4 := by
  constructor
  · decide +kernel
  · rw [Lemmas.slide_eq _ (by decide)]; decide

/-! ## `calculate_conv_output` as a whole, over the value universe

The hand-written model of the function around the per-axis formula (`Model.calculateConvOutput`:
`isinstance` dispatch, `_index_tuple`, `'valid'` / `'same'`) is related to the specification: with
positive strides and kernels that fit it returns, per spatial axis, the sliding-window count
(`conv_out_slide`); and scalar / tuple / list / ndarray forms of each argument are interchangeable
(`forms`).  The model is tied to `nir/ir/utils.py` by the `shapes` correspondence suite. -/

open NirVerif.Lemmas NirVerif.Model NirVerif.Py
/-- sliding-window count with the stride-positivity proof supplied where it holds -/
def slideD (len span s : Nat) : Nat := if h : 0 < s then Spec.slide len span s h else 0

def natTuple (xs : List Nat) : Val := .tuple ((xs.map Int.ofNat).map Val.int)

/-- **Whole-function exactness** (numeric padding): on tuples of Python ints, for any number of
spatial axes, with positive strides and kernels that fit at least once, `calculate_conv_output`
returns exactly the sliding-window position counts. -/
theorem conv_out_slide (ns ps ds ks ss : List Nat)
    (hp : ps.length = ns.length) (hd : ds.length = ns.length) (hk : ks.length = ns.length) (hs : ss.length = ns.length)
    (hok : ∀ i, i < ns.length → 0 < ss.getD i 0 ∧ 1 ≤ ks.getD i 0 ∧
      Spec.span (ds.getD i 0) (ks.getD i 0) ≤ ns.getD i 0 + 2 * ps.getD i 0) :
    calculateConvOutput (natTuple ns) (natTuple ps) (natTuple ds) (natTuple ks) (natTuple ss) =
      .ok ((List.range ns.length).map fun i =>
        ((slideD (ns.getD i 0 + 2 * ps.getD i 0) (Spec.span (ds.getD i 0) (ks.getD i 0)) (ss.getD i 0) : Nat) : Int)) := by
  have hget : ∀ (xs : List Nat) (i : Nat), (xs.map Int.ofNat).getD i 0 = ((xs.getD i 0 : Nat) : Int) := by
    intro xs i
    simp only [List.getD, List.getElem?_map]
    cases xs[i]? <;> rfl
  unfold natTuple
  rw [calculateConvOutput_ints (by simp [hp]) (by simp [hd]) (by simp [hk]) (by simp [hs])]
  · congr 1
    simp only [List.length_map]
    apply List.map_congr_left
    intro i hi
    have hi' : i < ns.length := by simpa using hi
    obtain ⟨h1, h2, h3⟩ := hok i hi'
    rw [hget, hget, hget, hget, hget, axis _ _ _ _ _ h1 h2 h3]
    unfold slideD
    rw [dif_pos h1]
  · intro i hi
    have hi' : i < ns.length := by simpa using hi
    rw [hget]
    have := (hok i hi').1
    omega

/-- **Container forms are interchangeable**: any two argument tuples with the same integer
readings (tuple, list or ndarray of any integer dtype, Python or numpy integers; for the four
hyper-parameters also a scalar, `scalar_form`) give the same result.  A scalar *input shape* (Conv1d) is
`Lemmas.calculateConvOutput_scalar`. -/
theorem forms (v v' p p' d d' k k' s s' : Val) (xs : List Int)
    (hv : IntReading v xs) (hv' : IntReading v' xs)
    (hp : SameIdx xs.length p p') (hd : SameIdx xs.length d d') (hk : SameIdx xs.length k k')
    (hs : SameIdx xs.length s s') (hps : NotStr p) (hps' : NotStr p') :
    calculateConvOutput v p d k s = calculateConvOutput v' p' d' k' s' := by
  rw [calculateConvOutput_of_reading hv, calculateConvOutput_of_reading hv', valid_notStr hps, valid_notStr hps']
  refine mapM_congr _ _ _ fun i hi => ?_
  have hi' : i < xs.length := List.mem_range.mp hi
  exact convAxisVal_congr i (by rw [hv.index i hi', hv'.index i hi']) (by rw [isSame_notStr hps, isSame_notStr hps'])
    (hp i hi') (hd i hi') (hk i hi') (hs i hi')

/-- instances of the reading relation (this and the next two): tuples and lists of Python / numpy integers, and
rank-1 integer ndarrays of any dtype -/
theorem reads_tuple (ys : List Val) (xs : List Int) (h : ys.mapM Val.asInt? = some xs) : IntReading (.tuple ys) xs :=
  reading_tuple h
theorem reads_list (ys : List Val) (xs : List Int) (h : ys.mapM Val.asInt? = some xs) : IntReading (.list ys) xs :=
  ⟨rfl, (reading_tuple h).len, (reading_tuple h).index⟩
theorem reads_ndarray (dt : DType) (n : Nat) (d : Bytes) (hint : dt.isInteger = true)
    (hw : n = (decodeInts dt d).length) : IntReading (.arr dt [n] d) (decodeInts dt d) :=
  reading_arr hint hw

/-- a scalar hyper-parameter stands for the tuple repeating it on every axis -/
theorem scalar_form (v : Val) (a : Int) (n : Nat) (h : Val.asInt? v = some a) :
    SameIdx n v (.tuple (List.replicate n (.int a))) := by
  intro i hi
  rw [indexTuple_scalar h i]
  simp [indexTuple, hi, Val.asInt?]

/-- `'same'` keeps the spatial size; `'valid'` is zero padding. -/
theorem same_keeps (v d k s : Val) (xs : List Int) (hv : IntReading v xs) :
    calculateConvOutput v (.str "same") d k s = .ok xs := by
  rw [calculateConvOutput_of_reading hv, mapM_eq_ok_map _ (fun i => xs.getD i 0)]
  · congr 1
    apply List.ext_getElem
    · simp
    · intro i _ h2; simp [List.getD, h2]
  · intro i hi
    have hi' : i < xs.length := List.mem_range.mp hi
    simp [convAxisVal, normalisePadding, isSamePadding, hv.index i hi', bind, Except.bind, Idx.toInt, hi']

theorem valid_is_zero (v d k s : Val) (xs : List Int) (hv : IntReading v xs) :
    calculateConvOutput v (.str "valid") d k s =
      calculateConvOutput v (.list (List.replicate xs.length (.int 0))) d k s := by
  rw [calculateConvOutput_of_reading hv, calculateConvOutput_of_reading hv]
  rfl

/-- Non-vacuity: a 9×7 input, padding (1,0), dilation (2,1), kernel (3,2), stride (2,3). -/
example : calculateConvOutput (natTuple [9, 7]) (natTuple [1, 0]) (natTuple [2, 1]) (natTuple [3, 2]) (natTuple [2, 3])
    = .ok [4, 2] := by decide +kernel

end NirVerif.C06
