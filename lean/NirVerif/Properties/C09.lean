import NirVerif.Lemmas.Typing

/-! # C09 — the graph type check accepts exactly the consistent graphs

About `Model.checkTypes` (hand-written model of the active `_check_types`, tied to the
code by the `graphs` correspondence suite). -/
namespace NirVerif.C09
open NirVerif NirVerif.Py NirVerif.Model NirVerif.Lemmas

/-- Every edge joins existing single-port leaf nodes (flat graph). -/
def Flat (g : Node) : Prop :=
  ∀ e ∈ g.edges, ∃ a b, lookup e.1 g.children = some a ∧ lookup e.2 g.children = some b
    ∧ SinglePort a ∧ SinglePort b

/-- The edge joins a source whose output shape is defined to a target whose input shape is
defined and equal to it (`Spec.portShape` is the specification's own reading of a type). -/
def EdgeConsistent (g : Node) (e : Edge) : Prop :=
  ∃ a b s, lookup e.1 g.children = some a ∧ lookup e.2 g.children = some b
    ∧ Spec.portShape a.outputType = some s ∧ Spec.portShape b.inputType = some s

/-- The check succeeds precisely when every edge is consistent — any topology, any edge
order, any multiplicity. -/
theorem iff (g : Node) (hflat : Flat g) :
    checkTypes g = .ok true ↔ ∀ e ∈ g.edges, EdgeConsistent g e := by
  have hred : checkTypes g = .ok true ↔ forEachEdge (checkEdge g.children) g.edges = .ok () := by
    unfold checkTypes
    cases h : forEachEdge (checkEdge g.children) g.edges <;> simp
  rw [hred, forEachEdge_ok]
  refine forall₂_congr fun e he => ?_
  obtain ⟨a, b, ha, hb, hsa, hsb⟩ := hflat e he
  have hcons : EdgeConsistent g e ↔ ∃ s, Spec.portShape a.outputType = some s ∧ Spec.portShape b.inputType = some s :=
    ⟨fun ⟨a', b', s, ha', hb', h1, h2⟩ => by cases ha.symm.trans ha'; cases hb.symm.trans hb'; exact ⟨s, h1, h2⟩,
      fun ⟨s, h1, h2⟩ => ⟨a, b, s, ha, hb, h1, h2⟩⟩
  rcases checkEdge_spec ha hb hsa hsb with ⟨hok, hs⟩ | ⟨herr, hno⟩
  · exact iff_of_true hok (hcons.mpr hs)
  · exact iff_of_false (by rw [herr]; nofun) (mt hcons.mp hno)

/-- In every other case it raises, and what it raises is `ValueError`. -/
theorem rejects (g : Node) (hflat : Flat g) (h : checkTypes g ≠ .ok true) :
    checkTypes g = .error .valueError := by
  have := forEachEdge_err (checkEdge g.children) g.edges .valueError (by
    intro e he
    obtain ⟨a, b, ha, hb, hsa, hsb⟩ := hflat e he
    rcases checkEdge_spec ha hb hsa hsb with ⟨hok, _⟩ | ⟨herr, _⟩
    · exact Or.inl hok
    · exact Or.inr herr)
  unfold checkTypes at *
  rcases this with h1 | h1
  · rw [h1] at h; simp at h
  · rw [h1]

def exNode (i o : List Int) : Node :=
  Node.mk "Scale" [] (typeDict "input" (Val.ofInts i)) (typeDict "output" (Val.ofInts o)) (.dict []) [] []

/-- Both verdicts occur: a two-node graph with a consistent edge, a parallel copy of it and a self-loop is
accepted; one with a mismatched shape raises `ValueError`.  The examples evaluate `checkTypes`; they do not
prove the graphs `Flat`. -/
example : checkTypes (mkGraph [("a", exNode [2, 3] [2, 3]), ("b", exNode [2, 3] [2, 3])]
    [("a", "b"), ("b", "b"), ("a", "b")]) = .ok true := by decide +kernel
example : checkTypes (mkGraph [("a", exNode [2, 3] [2, 3]), ("b", exNode [3, 2] [2, 3])]
    [("a", "b")]) = .error .valueError := by decide +kernel

end NirVerif.C09
