import NirVerif.Properties.C17
import NirVerif.Generated.ObserverEffects

/-! # C17 — the frame condition read off the source (translator item T16)

`Properties/C17.lean` states the frame condition over a model whose observers are functions of an
immutable value.  What makes the real observers refine those functions is that their bodies contain no
statement that stores through an object reachable from the observed graph, and that `nir/` keeps no
state that outlives a call (so that two reads cannot share anything).  T16 reads exactly that off the
source on every run: the observers' bodies are walked with a small taint analysis (`self` / `graph` and
every local bound to a part of them are *live*; results of `asdict`, `deepcopy`, `.to_dict()` are fresh);
every assignment / deletion / in-place operator / mutating method call / `setattr` through a live object
is listed in `stores`, every hand-over of a live object to code outside a fixed table of readers in
`escapes`; mutable default arguments, memoising decorators, `global`, memory maps and mutated module-level
containers anywhere under `nir/` are listed in `sharedState`.  The theorems say the lists are empty; a
change that adds a store, an unknown callee or call-outliving state changes the regenerated file and they
stop checking — the check then searches the real code for a snapshot difference (`props/c17.py`).

Trusted here: the effect analysis itself (`harness/translate.py`, `_Effects`), the table of reader /
copying functions in it (`asdict` and `deepcopy` copy; `np.array_equal`, `len`, `isinstance`, … only
read), and that h5py's `create_dataset` only reads the data it is given. -/
namespace NirVerif.C17
open NirVerif.Generated

/-- no observer body stores through the observed graph, none hands it to unknown code -/
theorem observers_generated :
    ObserverEffects.stores = [] ∧ ObserverEffects.escapes = [] ∧
    (∀ o ∈ ["NIRNode.to_dict", "NIRGraph.to_dict", "NIRGraph.inputs", "NIRGraph.outputs",
            "NIRGraph._check_types", "write"], o ∈ ObserverEffects.observers) := by
  decide

/-- nothing under `nir/` keeps state between calls that two results could share -/
theorem no_shared_state_generated : ObserverEffects.sharedState = [] := by decide

/-- no class under `nir/` redefines attribute access, copying or hashing, and neither the observers nor the module-level
functions of the reader / writer / shape utilities are wrapped by a decorator: what the bodies read by T16, T13, T18 and
T19 say is what runs -/
theorem no_hooks_generated : ObserverEffects.hooks = [] := by decide

end NirVerif.C17
