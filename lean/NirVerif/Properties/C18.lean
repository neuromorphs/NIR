import NirVerif.Lemmas.FromDict

/-! # C18 — deserialisation is closed-world and strict

About `Model.fromDict` / `Model.construct` / `Model.bindKwargs` over the *generated* whitelist
(T2) and field table (T1); tied to `dict2NIRNode` / `nir.read` by the `dicts` correspondence
suite, which feeds malformed dictionaries to both sides.  Reading a file goes through the same
function (`read f = fromDict (hdf2dict f["node"])`). -/
namespace NirVerif.C18
open NirVerif NirVerif.Py NirVerif.Model NirVerif.Lemmas

/-- the whitelist is exactly the 18 documented serialisable primitives -/
theorem whitelist_documented : Generated.whitelist.length = 18 ∧ ∀ k ∈
    ["Input", "Output", "Affine", "Linear", "Scale", "Conv1d", "Conv2d", "SumPool2d", "AvgPool2d", "Flatten",
     "Delay", "Threshold", "I", "IF", "LI", "LIF", "CubaLIF", "NIRGraph"], k ∈ Generated.whitelist := by
  decide +kernel

/-- **Closed world**: a dictionary whose `type` is a string outside the whitelist constructs
nothing and raises — whatever else it contains, at the top level … -/
theorem closed (kvs : List (String × Val)) (s : String)
    (ht : lookup "type" kvs = some (.str s)) (hs : s ∉ Generated.whitelist) :
    fromDict (.dict kvs) = .error .assertionError :=
  fromDictFuel_type ht (str2NIRNode_of_not_mem hs)

/-- a type entry that is not a string at all is rejected as well -/
theorem closed_nonstring (kvs : List (String × Val)) (t : Val) (ht : lookup "type" kvs = some t)
    (hns : ∀ s, t ≠ .str s) : ∃ e, fromDict (.dict kvs) = .error e := by
  cases t with
  | str s => exact absurd rfl (hns s)
  | _ => exact ⟨_, fromDictFuel_type ht rfl⟩

/-- a dictionary without a `type` entry raises KeyError -/
theorem no_type (kvs : List (String × Val)) (ht : lookup "type" kvs = none) :
    fromDict (.dict kvs) = .error .keyError :=
  fromDictFuel_no_type ht

/-- mandatory init-fields of a class according to the generated field table -/
def mandatory (kind : String) : List String :=
  ((lookup kind Generated.classFields).getD []).filterMap fun p => if p.2.isNone then some p.1 else none

/-- the mandatory fields are exactly the documented parameters (everything but the derived
types, `metadata`, Flatten's dimensions/input shape and CubaLIF's input weight) -/
theorem mandatory_table :
    mandatory "Affine" = ["weight", "bias"] ∧ mandatory "Linear" = ["weight"] ∧ mandatory "Scale" = ["scale"] ∧
    mandatory "Threshold" = ["threshold"] ∧ mandatory "Delay" = ["delay"] ∧ mandatory "I" = ["r"] ∧
    mandatory "IF" = ["r", "v_threshold"] ∧ mandatory "LI" = ["tau", "r", "v_leak"] ∧
    mandatory "LIF" = ["tau", "r", "v_leak", "v_threshold"] ∧
    mandatory "CubaLIF" = ["tau_syn", "tau_mem", "r", "v_leak", "v_threshold"] ∧
    mandatory "Conv1d" = ["input_shape", "weight", "stride", "padding", "dilation", "groups", "bias"] ∧
    mandatory "Conv2d" = ["input_shape", "weight", "stride", "padding", "dilation", "groups", "bias"] ∧
    mandatory "SumPool2d" = ["kernel_size", "stride", "padding"] ∧
    mandatory "AvgPool2d" = ["kernel_size", "stride", "padding"] ∧
    mandatory "Flatten" = [] ∧ mandatory "Input" = ["input_type"] ∧ mandatory "Output" = ["output_type"] ∧
    mandatory "NIRGraph" = ["nodes", "edges"] := by
  decide +kernel

theorem mem_mandatory (kind k : String) (spec : List (String × Option Val))
    (hspec : lookup kind Generated.classFields = some spec) (hk : k ∈ mandatory kind) : (k, none) ∈ spec := by
  simp only [mandatory, hspec, Option.getD_some, List.mem_filterMap] at hk
  obtain ⟨⟨a, b⟩, hmem, hb⟩ := hk
  cases b with
  | none => simp at hb; subst hb; exact hmem
  | some v => simp at hb

/-- **Missing field**: constructing a node of any class without one of its mandatory fields raises TypeError. -/
theorem construct_missing (kind k : String) (kwargs : List (String × Val))
    (hk : k ∈ mandatory kind) (hm : lookup k kwargs = none) :
    construct kind kwargs = .error .typeError := by
  cases hspec : lookup kind Generated.classFields with
  | none => simp [mandatory, hspec] at hk
  | some spec =>
    rw [construct_eq hspec, bindKwargs_eq_error.mpr ⟨rfl, .inr ⟨(k, none), mem_mandatory kind k spec hspec hk, hm, rfl⟩⟩]; rfl

/-- **Extra field**: a key that is not a field of the class raises TypeError; it is never
ignored. -/
theorem construct_extra (kind k : String) (v : Val) (kwargs : List (String × Val)) (spec : List (String × Option Val))
    (hspec : lookup kind Generated.classFields = some spec) (hk : (k, v) ∈ kwargs) (hns : k ∉ spec.map Prod.fst) :
    construct kind kwargs = .error .typeError := by
  rw [construct_eq hspec, bindKwargs_eq_error.mpr ⟨rfl, .inl ⟨(k, v), hk, hns⟩⟩]; rfl

/-- for the primitives without a class-specific `from_dict`, reading a dictionary is
`cls(**d)` after removing the type tag -/
theorem fromDict_generic (kvs : List (String × Val)) (kind : String)
    (ht : lookup "type" kvs = some (.str kind)) (hw : kind ∈ Generated.whitelist)
    (hgen : kind ≠ "Input" ∧ kind ≠ "Output" ∧ kind ≠ "Flatten" ∧ kind ≠ "NIRGraph") :
    fromDict (.dict kvs) = construct kind (erase "type" kvs) :=
  fromDictFuel_generic _ kvs kind ht hw hgen

/-- Non-vacuity: an LIF dictionary without `r` raises TypeError, and a dictionary tagged `Identity` (a class outside the
whitelist) raises AssertionError. -/
example : fromDict (.dict [("tau", .arr DType.float64 [2] []), ("v_leak", .arr DType.float64 [2] []),
    ("v_threshold", .arr DType.float64 [2] []), ("type", .str "LIF")]) = .error .typeError := by
  rw [fromDict_generic _ "LIF" rfl (by decide) (by decide)]
  exact construct_missing "LIF" "r" _ (by decide) rfl

example : fromDict (.dict [("type", .str "Identity"), ("input_type", .none)]) = .error .assertionError :=
  closed _ "Identity" rfl (by decide)

/-! ## the closed world holds at every nesting depth

`C18.closed` is about the top level.  Here: whenever `dict2NIRNode` returns a node at all, the
type tag of the dictionary *and of every nested node dictionary, at any depth* is one of the
whitelisted primitive names — a non-whitelisted tag anywhere under `nodes` makes the whole call
raise and construct nothing. -/

/-- every type tag reachable within `fuel` levels of nesting is a whitelisted string -/
def TagsOK : Nat → Val → Prop
  | 0, _ => True
  | fuel + 1, .dict kvs =>
      ∃ s, lookup "type" kvs = some (.str s) ∧ s ∈ Generated.whitelist ∧
        (s = "NIRGraph" → ∀ cd, lookup "nodes" kvs = some (.dict cd) → ∀ kv ∈ cd, TagsOK fuel kv.2)
  | _ + 1, _ => False

theorem closed_at_depth (fuel : Nat) (d : Val) (n : Node) (h : fromDictFuel fuel d = .ok n) : TagsOK fuel d := by
  induction fuel generalizing d n with
  | zero => trivial
  | succ fuel ih =>
    obtain ⟨f, kvs, kind, hf, rfl, ht, hw, hcase⟩ := fromDictFuel_ok h
    cases hf
    refine ⟨kind, ht, hw, fun hs cd hn kv hkv => ?_⟩
    -- the graph branch: every child dictionary was itself turned into a node
    rw [if_pos hs] at hcase
    obtain ⟨cd', cs, _, _, hn', hm, _⟩ := graphOfDict_ok hcase
    cases hn.symm.trans hn'
    obtain ⟨n', hn'⟩ := (mapVals_spec _ cd cs hm).2.2 kv hkv
    exact ih kv.2 n' hn'

/-- Readable corollary for one level of nesting: a graph dictionary one of whose children carries
a non-whitelisted type string is never turned into a graph. -/
theorem closed_child (kvs cd ckvs : List (String × Val)) (k s : String)
    (ht : lookup "type" kvs = some (.str "NIRGraph")) (hn : lookup "nodes" kvs = some (.dict cd))
    (hc : (k, Val.dict ckvs) ∈ cd) (hs : lookup "type" ckvs = some (.str s)) (hw : s ∉ Generated.whitelist)
    (n : Node) : fromDict (.dict kvs) ≠ .ok n := by
  intro h
  have hfuel : Val.depth (.dict kvs) + 1 = (Val.depth.depthList kvs + 1) + 1 := by simp only [Val.depth]; omega
  rw [fromDict, hfuel] at h
  obtain ⟨_, hs0, _, hrec⟩ := closed_at_depth _ _ n h
  cases ht.symm.trans hs0
  obtain ⟨_, hs1, hw1, _⟩ := hrec rfl cd hn (k, .dict ckvs) hc
  cases hs.symm.trans hs1
  exact hw hw1

/-- Non-vacuity: an `Identity` node (a class that exists in `nir.ir.graph` but is not a
serialisable primitive) nested two levels deep makes the whole dictionary unreadable. -/
def exNested (leaf : String) : Val := .dict [("type", .str "NIRGraph"), ("edges", .list []),
    ("nodes", .dict [("g", .dict [("type", .str "NIRGraph"), ("edges", .list []),
      ("nodes", .dict [("x", .dict [("type", .str leaf), ("input_type", .none)])])])])]

example : (fromDict (exNested "Identity")).toBool = false := by decide +kernel

end NirVerif.C18
