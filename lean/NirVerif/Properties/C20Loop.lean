import NirVerif.Lemmas.EventLoop
import Mathlib.Tactic.NormNum

/-! # C20 (continued) — the event loop: spike times and recorded voltages do not depend on the
recording interval

About `Model.EventLoop` (the hand-written model of `run_event_based_simulation`, executed on
`Float` against the Python loop bit for bit), for any kernels whose `adv` is an exact flow;
`C20Crossings` puts in the **generated** kernels (`lifKern`, `lif_flow`).  Over ℝ.  A run "returns"
when the loop is left (`Halted`); a run that never leaves the loop (e.g. `record_dt = 0`) returns
nothing, and nothing is claimed about it. -/
namespace NirVerif.C20
open NirVerif.Model.EventLoop NirVerif.Lemmas.EventLoop

section
variable (K : Kern ℝ) (hF : Flow K) (inputs : List (ℝ × ℝ)) (dur v0 : ℝ)
include hF

theorem init_inv {d : Option ℝ} (hd : ∀ x, d = some x → 0 ≤ x) {s : St ℝ} (h : init K 0 v0 inputs d = some s)
    (n : Nat) : ∃ sN, init K 0 v0 inputs none = some sN ∧ ∃ m, Inv K inputs dur d s sN n m := by
  rcases inputs with _ | ⟨⟨t0, a0⟩, rest⟩
  · cases h
  · obtain rfl := Option.some.inj h
    refine ⟨_, rfl, inv_all hF hd ?_ rfl n⟩
    exact ⟨rfl, rfl, rfl, rfl, rfl, rfl, by simp [hF.zero], Iff.rfl⟩

/-- **Spike times do not depend on the recording interval.**  Two runs of the event loop on the
same neuron, initial voltage, input schedule and duration, with any two recording intervals `≥ 0`
(`none` = `inf`: no recording at all), that both return, return the same list of spike times. -/
theorem loop_spikes_independent (d1 d2 : Option ℝ) (hd1 : ∀ x, d1 = some x → 0 ≤ x)
    (hd2 : ∀ x, d2 = some x → 0 ≤ x) {s1 s2 : St ℝ} (h1 : init K 0 v0 inputs d1 = some s1)
    (h2 : init K 0 v0 inputs d2 = some s2) (n1 n2 : Nat)
    (hh1 : Halted dur (iter K inputs d1 dur n1 s1)) (hh2 : Halted dur (iter K inputs d2 dur n2 s2)) :
    (iter K inputs d1 dur n1 s1).spikes = (iter K inputs d2 dur n2 s2).spikes := by
  obtain ⟨sN, hN, m1, i1⟩ := init_inv K hF inputs dur v0 hd1 h1 n1
  obtain ⟨_, hN', m2, i2⟩ := init_inv K hF inputs dur v0 hd2 h2 n2
  cases hN.symm.trans hN'
  rw [i1.rel.spikes, i2.rel.spikes, halted_unique (halted_of_rel i1.rel hh1) (halted_of_rel i2.rel hh2)]

/-- **Each recorded voltage is the exact solution**, started from the state the non-recording run is in
at that instant, evaluated at the record time. -/
theorem loop_record_value (d : Option ℝ) (hd : ∀ x, d = some x → 0 ≤ x) {s sN : St ℝ}
    (h : init K 0 v0 inputs d = some s) (hN : init K 0 v0 inputs none = some sN) (n : Nat) (T u : ℝ)
    (hr : (T, u) ∈ (iter K inputs d dur n s).recs) :
    ∃ m, First K inputs dur sN m T ∧
      u = K.adv (iter K inputs none dur m sN).v (iter K inputs none dur m sN).amp
            (T - (iter K inputs none dur m sN).t) := by
  obtain ⟨_, hN', m1, i1⟩ := init_inv K hF inputs dur v0 hd h n
  cases hN.symm.trans hN'
  obtain ⟨a, _, fa, va⟩ := i1.recs _ hr
  exact ⟨a, fa, va⟩

/-- **Recorded voltages do not depend on the recording interval.**  Whenever two runs (any two
recording intervals `≥ 0`, any number of iterations into the run) have both recorded a voltage at the
same instant `T`, they recorded the same voltage. -/
theorem loop_records_independent (d1 d2 : Option ℝ) (hd1 : ∀ x, d1 = some x → 0 ≤ x)
    (hd2 : ∀ x, d2 = some x → 0 ≤ x) {s1 s2 : St ℝ} (h1 : init K 0 v0 inputs d1 = some s1)
    (h2 : init K 0 v0 inputs d2 = some s2) (n1 n2 : Nat) (T u1 u2 : ℝ)
    (hr1 : (T, u1) ∈ (iter K inputs d1 dur n1 s1).recs) (hr2 : (T, u2) ∈ (iter K inputs d2 dur n2 s2).recs) :
    u1 = u2 := by
  obtain ⟨sN, hN, -⟩ := init_inv K hF inputs dur v0 hd1 h1 0
  obtain ⟨a, fa, va⟩ := loop_record_value K hF inputs dur v0 d1 hd1 h1 hN n1 T u1 hr1
  obtain ⟨b, fb, vb⟩ := loop_record_value K hF inputs dur v0 d2 hd2 h2 hN n2 T u2 hr2
  cases fa.unique fb
  exact va.trans vb.symm
end

/-! ## Non-vacuity: two concrete runs that meet every hypothesis

The theorems are generic in the kernels; to *run* the loop over ℝ by hand the perfect integrator
(`dv/dt = I`, threshold 3/2 — an exact flow too) is used.  One unit step current from `t = 0`,
duration 5/2, recording every 1 resp. every 1/2 (where a record coincides with the spike at 3/2
and is handled after it).  Both runs return. -/
section NonVacuity

noncomputable def intKern : Kern ℝ :=
  ⟨fun v I dt => v + I * dt, fun v I => if 0 < I ∧ v ≤ 3/2 then some ((3/2 - v) / I) else none,
   fun v => v - 3/2⟩

theorem intKern_flow : Flow intKern :=
  ⟨by intro v I; simp [intKern], by intro v I a b; simp [intKern, mul_add, add_assoc]⟩

def entry (d : Option ℝ) : St ℝ :=
  { t := 0, v := 0, amp := 0, idx := 0, nSpike := none, nRec := d, nIn := some 0, spikes := [], recs := [] }

theorem runA : init intKern 0 0 [((0:ℝ), (1:ℝ))] (some 1) = some (entry (some 1)) ∧
    Halted (5/2) (iter intKern [((0:ℝ), (1:ℝ))] (some 1) (5/2) 4 (entry (some 1))) ∧
    (iter intKern [((0:ℝ), (1:ℝ))] (some 1) (5/2) 4 (entry (some 1))).spikes = [3/2] ∧
    (iter intKern [((0:ℝ), (1:ℝ))] (some 1) (5/2) 4 (entry (some 1))).recs = [(1, 1), (2, 1/2)] := by
  -- input at 0, record at 1, spike at 3/2, record at 2; then the next event (3) is later than 5/2.
  -- The end state is computed once: unfolding under `Halted`, `.spikes`, `.recs` re-runs the loop per projection.
  have e : iter intKern [((0:ℝ), (1:ℝ))] (some 1) (5/2) 4 (entry (some 1))
      = ⟨2, 1/2, 1, 1, some 3, some 3, none, [3/2], [(1, 1), (2, 1/2)]⟩ := by
    norm_num [iter, next, step, pick, fire, argmin3, ltInf, addInf, entry, intKern]
  rw [e]
  exact ⟨by simp [init, entry, intKern], by norm_num [Halted, pick, argmin3, ltInf], rfl, rfl⟩

theorem runB : init intKern 0 0 [((0:ℝ), (1:ℝ))] (some (1/2)) = some (entry (some (1/2))) ∧
    Halted (5/2) (iter intKern [((0:ℝ), (1:ℝ))] (some (1/2)) (5/2) 7 (entry (some (1/2)))) ∧
    (iter intKern [((0:ℝ), (1:ℝ))] (some (1/2)) (5/2) 7 (entry (some (1/2)))).spikes = [3/2] ∧
    (iter intKern [((0:ℝ), (1:ℝ))] (some (1/2)) (5/2) 7 (entry (some (1/2)))).recs
      = [(1/2, 1/2), (1, 1), (3/2, 0), (2, 1/2), (5/2, 1)] := by
  -- input at 0, records at 1/2 and 1, spike at 3/2 and then the record due at the same instant, records at 2, 5/2
  have e : iter intKern [((0:ℝ), (1:ℝ))] (some (1/2)) (5/2) 7 (entry (some (1/2)))
      = ⟨5/2, 1, 1, 1, some 3, some 3, none, [3/2], [(1/2, 1/2), (1, 1), (3/2, 0), (2, 1/2), (5/2, 1)]⟩ := by
    norm_num [iter, next, step, pick, fire, argmin3, ltInf, addInf, entry, intKern]
  rw [e]
  exact ⟨by simp [init, entry, intKern], by norm_num [Halted, pick, argmin3, ltInf], rfl, rfl⟩

/-- the theorem applied to the two runs: all hypotheses are met by actual, non-trivial runs -/
example : (iter intKern [((0:ℝ), (1:ℝ))] (some 1) (5/2) 4 (entry (some 1))).spikes
    = (iter intKern [((0:ℝ), (1:ℝ))] (some (1/2)) (5/2) 7 (entry (some (1/2)))).spikes :=
  loop_spikes_independent intKern intKern_flow _ (5/2) 0 (some 1) (some (1/2))
    (by intro x hx; cases hx; norm_num) (by intro x hx; cases hx; norm_num) runA.1 runB.1 4 7 runA.2.1 runB.2.1

end NonVacuity

end NirVerif.C20
