import NirVerif.Properties.C05
import NirVerif.Properties.C19
import NirVerif.Generated.NeuronShapes
import NirVerif.Generated.Guards

/-! # C19 / C05 (continued) — the neuron constructors' shape check, as the source states it

`Generated.sameShapeFields` and `Generated.typeSourceField` are regenerated on every run (translator item T9) from the
first assertion of each neuron class's `__post_init__` (a chain `self.a.shape == self.b.shape == …`) and from the two
assignments that build the declared types.  The theorems below fail to build when a parameter is dropped from (or added
to) a chain, or when the types are taken from another parameter. -/
namespace NirVerif.C19
open NirVerif NirVerif.Py NirVerif.Model

/-- the common-shape assertion of every neuron class compares exactly the class's parameters (CubaLIF: all but the input
weight, which is checked after materialisation), and both declared types are the shape of one of the compared parameters -/
theorem shape_fields_generated :
    Generated.sameShapeFields =
      [("CubaLIF", ["tau_syn", "tau_mem", "r", "v_leak", "v_threshold"]), ("IF", ["r", "v_threshold"]),
       ("LI", ["tau", "r", "v_leak"]), ("LIF", ["tau", "r", "v_leak", "v_threshold"])] ∧
    ∀ kf ∈ Generated.typeSourceField, ∃ flds, lookup kf.1 Generated.sameShapeFields = some flds ∧ kf.2 ∈ flds := by
  decide +kernel

/-- the model's constructor on the generated table: for every class and field list *the source states*, parameters of
one common shape are accepted and both declared types are that shape (C05 `neuron`, re-checked against the source) -/
theorem neuron_generated (kind : String) (fields : List String)
    (hk : (kind, fields) ∈ Generated.sameShapeFields) (hc : kind ≠ "CubaLIF")
    (f : List (String × Val)) (sh : List Nat)
    (hp : ∀ fld ∈ fields, ∃ dt d, lookup fld f = some (.arr dt sh d)) :
    ∃ node, postInit kind f = .ok node ∧
      C05.Declares node.inputType "input" sh ∧ C05.Declares node.outputType "output" sh := by
  apply C05.neuron kind fields _ f sh hp
  rw [shape_fields_generated.1] at hk
  simp only [List.mem_cons, Prod.mk.injEq, List.mem_nil_iff, or_false] at hk ⊢
  exact hk.resolve_left fun h => hc h.1

/-! ## the guards at the top of the Affine / Linear and Conv constructors (translator item T10) -/

/-- what the source states: weight rank at least 2 for both dense classes; the padding guard of both convolution
classes looks at `str` and `bytes` values and admits exactly `'same'` and `'valid'` -/
theorem guards_generated :
    Generated.minWeightRank = [("Affine", 2), ("Linear", 2)] ∧
    Generated.paddingWhitelist = [("Conv1d", ["same", "valid"]), ("Conv2d", ["same", "valid"])] ∧
    Generated.paddingGuardTypes = [("Conv1d", ["str", "bytes"]), ("Conv2d", ["str", "bytes"])] := by
  decide +kernel

/-- the weight-rank characterisation with the bound the source states -/
theorem weight_rank_generated (kind : String) (k : Nat) (hk : (kind, k) ∈ Generated.minWeightRank)
    (f : List (String × Val)) (dt : DType) (sh : List Nat) (d : Bytes)
    (hw : lookup "weight" f = some (.arr dt sh d)) :
    accepted (postInit kind f) ↔ k ≤ sh.length := by
  rw [guards_generated.1] at hk
  simp only [List.mem_cons, Prod.mk.injEq, List.mem_nil_iff, or_false] at hk
  rcases hk with ⟨rfl, rfl⟩ | ⟨rfl, rfl⟩
  · exact (weight_rank "Affine" (Or.inl rfl) f dt sh d hw).1
  · exact (weight_rank "Linear" (Or.inr rfl) f dt sh d hw).1

/-- the padding-string characterisation with the whitelist the source states: a string is accepted iff it is in it -/
theorem padding_generated (kind : String) (wl : List String) (hk : (kind, wl) ∈ Generated.paddingWhitelist)
    (f : List (String × Val)) (s : String)
    (hp : lookup "padding" f = some (.str s)) (hi : lookup "input_shape" f = some .none)
    (hs : (lookup "stride" f).isSome) (hd : (lookup "dilation" f).isSome) :
    accepted (postInit kind f) ↔ s ∈ wl := by
  rw [guards_generated.2.1] at hk
  simp only [List.mem_cons, Prod.mk.injEq, List.mem_nil_iff, or_false] at hk
  rcases hk with ⟨rfl, rfl⟩ | ⟨rfl, rfl⟩
  · rw [(padding_string "Conv1d" (Or.inl rfl) f s hp hi hs hd).1]; simp
  · rw [(padding_string "Conv2d" (Or.inr rfl) f s hp hi hs hd).1]; simp

end NirVerif.C19
