import NirVerif.Properties.C13
import NirVerif.Generated.DictOverrides

/-! # C13 / C03 / C01 (continued) — the class-specific dictionary entries, as the source states them

`Generated.dictOverrides` is regenerated on every run (translator item T11) from `Input.to_dict`, `Output.to_dict`
(graph.py) and `Flatten.to_dict` (flatten.py): the key each adds, and which type attribute and port the value is read
from (deep-copied).  `toDict_override_generated` checks the model's `toDict` against that table: reading the shape of
an Input from its *output* side, renaming `shape`, or dropping the `deepcopy` breaks the build. -/
namespace NirVerif.C13
open NirVerif NirVerif.Py NirVerif.Model

theorem overrides_generated :
    Generated.dictOverrides = [("Input", "shape", "input_type", "input"), ("Output", "shape", "output_type", "output"),
      ("Flatten", "input_type", "input_type", "input")] := by
  decide +kernel

/-- for every class-specific entry the source states — class `cls` adds `key`, read from port `port` of the type
attribute `attr` — the model's dictionary form of a `cls` node is its fields, `metadata`, `type` and that entry holding
the value found at that port of that side -/
theorem toDict_override_generated (cls key attr port : String)
    (h : (cls, key, attr, port) ∈ Generated.dictOverrides)
    (fields : List (String × Val)) (it ot md s : Val)
    (hs : getItem (if attr = "input_type" then it else ot) port = .ok s) :
    toDict (Node.mk cls fields it ot md [] []) =
      .ok (.dict (fields ++ [("metadata", md), ("type", .str cls), (key, s)])) := by
  rw [overrides_generated] at h
  simp only [List.mem_cons, Prod.mk.injEq, List.mem_nil_iff, or_false] at h
  rcases h with ⟨rfl, rfl, rfl, rfl⟩ | ⟨rfl, rfl, rfl, rfl⟩ | ⟨rfl, rfl, rfl, rfl⟩
  all_goals simp only [String.reduceEq, ↓reduceIte] at hs
  · rw [Lemmas.toDict_input, hs]; rfl
  · rw [Lemmas.toDict_output, hs]; rfl
  · rw [Lemmas.toDict_flatten, hs]; rfl

end NirVerif.C13
