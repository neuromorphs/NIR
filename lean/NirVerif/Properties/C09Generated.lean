import NirVerif.Properties.C09
import NirVerif.Generated.CheckErrors

/-! # C09 (continued) — the tests of `_check_types` and the exceptions they raise, as read off the source

`Generated.checkErrors` / `checkComparator` are regenerated on every run (translator item T15) from the active
`_check_types`: per edge and in this order — source output undefined, target input undefined, different numbers of ports,
(one port each) shapes not `np.array_equal`, several ports — with the exception class each raises.  `checkEdge_errors`
checks the model's `checkEdge` against that table for the four tests other than the shape comparison. -/
namespace NirVerif.C09
open NirVerif NirVerif.Py NirVerif.Model

theorem check_errors_generated :
    Generated.checkErrors = [("undefined_output", "ValueError"), ("undefined_input", "ValueError"),
      ("length_mismatch", "ValueError"), ("shape_mismatch", "ValueError"), ("several_ports", "NotImplementedError")] ∧
    Generated.checkComparator = "np.array_equal" := by
  decide +kernel

def raisedName {α : Type} : Except PyErr α → Option String
  | .error e => some e.name
  | .ok _ => none

/-- on an edge between two leaf nodes, the model's check raises what the source names for each test, in the source's
order: an undefined source output first, then an undefined target input, then differing port counts, then (several ports
on both sides) the unsupported case -/
theorem checkEdge_errors (nodes : Nodes) (e : Edge) (pre post : Node)
    (h1 : lookup e.1 nodes = some pre) (h2 : lookup e.2 nodes = some post)
    (hl : pre.isKind "NIRGraph" = false ∧ post.isKind "NIRGraph" = false) :
    (typeUndefined pre.outputType = true →
        raisedName (checkEdge nodes e) = lookup "undefined_output" Generated.checkErrors) ∧
    (typeUndefined pre.outputType = false → typeUndefined post.inputType = true →
        raisedName (checkEdge nodes e) = lookup "undefined_input" Generated.checkErrors) ∧
    (∀ lo li, typeUndefined pre.outputType = false → typeUndefined post.inputType = false →
        typeLen pre.outputType = .ok lo → typeLen post.inputType = .ok li →
        (lo ≠ li → raisedName (checkEdge nodes e) = lookup "length_mismatch" Generated.checkErrors) ∧
        (lo = li → lo ≠ 1 → raisedName (checkEdge nodes e) = lookup "several_ports" Generated.checkErrors)) := by
  rw [check_errors_generated.1]
  simp only [checkEdge, h1, h2, hl.1, hl.2, Bool.or_false, Bool.false_eq_true, if_false]
  refine ⟨fun hu => ?_, fun hu hv => ?_, fun lo li hu hv hlo hli => ⟨fun hne => ?_, fun heq hn1 => ?_⟩⟩
  · simp [hu, raisedName, lookup, PyErr.name]
  · simp [hu, hv, raisedName, lookup, PyErr.name]
  · simp [hu, hv, hlo, hli, hne, raisedName, lookup, PyErr.name]
  · subst heq
    simp [hu, hv, hlo, hli, hn1, raisedName, lookup, PyErr.name]

end NirVerif.C09
