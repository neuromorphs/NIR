import NirVerif.Properties.C20
import NirVerif.Properties.C20Loop

/-! # C20 (continued) — the event loop's spikes are exactly the threshold crossings

About the loop model with the **generated** kernels (`lifKern`), over ℝ.  An invariant of the loop
(`Good`): the membrane is below the threshold at every loop state; a finite `next_spike_time` is an
instant at which the exact solution of the current segment *reaches* the threshold, and not before;
an infinite one means the current segment never reaches it.  Consequences: every spike the loop
records is taken exactly at a threshold crossing (`spike_event_at_threshold`), and between two
consecutive events of the loop the membrane stays strictly below the threshold
(`below_between_events`) — no crossing is missed.

Hypotheses (each needed): `0 < tau`; `0 < v_threshold` (reset by subtraction from exactly the
threshold leaves `0`, which must be sub-threshold); initial voltage below threshold; change times
non-decreasing (what `StepCurrent` asserts) and not before `t = 0`; recording interval `≥ 0`.
The prediction made at entry (for the zero current in force until the first input change) is needed:
with `next_spike_time = inf` at entry the invariant is false at the entry state for a neuron whose
leak potential lies above the threshold, and every spike before the first change point would be
missed (finding F13). -/
namespace NirVerif.C20
open NirVerif.Model.EventLoop NirVerif.Lemmas.EventLoop NirVerif.Generated.LifReal

/-- the three kernels of a neuron with the given parameters: the generated definitions (T6) -/
noncomputable def lifKern (tau r v_leak v_threshold : ℝ) : Kern ℝ :=
  ⟨advance tau r v_leak v_threshold, nextSpikeTime tau r v_leak v_threshold, applyReset tau r v_leak v_threshold⟩

theorem lif_flow (tau r v_leak v_threshold : ℝ) : Flow (lifKern tau r v_leak v_threshold) :=
  ⟨zero tau r v_leak v_threshold, fun v I a b => (add tau r v_leak v_threshold v I a b).symm⟩

/-- the two independence theorems for the shipped simulator: the loop around the generated kernels -/
theorem lif_spikes_independent (tau r v_leak v_threshold : ℝ) (inputs : List (ℝ × ℝ)) (dur v0 : ℝ)
    (d1 d2 : Option ℝ) (hd1 : ∀ x, d1 = some x → 0 ≤ x) (hd2 : ∀ x, d2 = some x → 0 ≤ x) {s1 s2 : St ℝ}
    (h1 : init (lifKern tau r v_leak v_threshold) 0 v0 inputs d1 = some s1) (h2 : init (lifKern tau r v_leak v_threshold) 0 v0 inputs d2 = some s2) (n1 n2 : Nat)
    (hh1 : Halted dur (iter (lifKern tau r v_leak v_threshold) inputs d1 dur n1 s1))
    (hh2 : Halted dur (iter (lifKern tau r v_leak v_threshold) inputs d2 dur n2 s2)) :
    (iter (lifKern tau r v_leak v_threshold) inputs d1 dur n1 s1).spikes
      = (iter (lifKern tau r v_leak v_threshold) inputs d2 dur n2 s2).spikes :=
  loop_spikes_independent _ (lif_flow tau r v_leak v_threshold) inputs dur v0 d1 d2 hd1 hd2 h1 h2 n1 n2 hh1 hh2

theorem lif_records_independent (tau r v_leak v_threshold : ℝ) (inputs : List (ℝ × ℝ)) (dur v0 : ℝ)
    (d1 d2 : Option ℝ) (hd1 : ∀ x, d1 = some x → 0 ≤ x) (hd2 : ∀ x, d2 = some x → 0 ≤ x) {s1 s2 : St ℝ}
    (h1 : init (lifKern tau r v_leak v_threshold) 0 v0 inputs d1 = some s1) (h2 : init (lifKern tau r v_leak v_threshold) 0 v0 inputs d2 = some s2) (n1 n2 : Nat) (T u1 u2 : ℝ)
    (hr1 : (T, u1) ∈ (iter (lifKern tau r v_leak v_threshold) inputs d1 dur n1 s1).recs)
    (hr2 : (T, u2) ∈ (iter (lifKern tau r v_leak v_threshold) inputs d2 dur n2 s2).recs) : u1 = u2 :=
  loop_records_independent _ (lif_flow tau r v_leak v_threshold) inputs dur v0 d1 d2 hd1 hd2 h1 h2 n1 n2 T u1 u2 hr1 hr2

section
variable (tau r v_leak θ : ℝ)

/-- `np.argmin` returns a minimum, with ties resolved towards the earlier entry -/
theorem argmin3_min (a b c : Option ℝ) (k : Nat) (T : ℝ) (h : argmin3 a b c = (k, some T)) :
    (k = 0 ∧ a = some T ∧ (∀ x, b = some x → T ≤ x) ∧ (∀ x, c = some x → T ≤ x)) ∨
    (k = 1 ∧ b = some T ∧ (∀ x, a = some x → T < x) ∧ (∀ x, c = some x → T ≤ x)) ∨
    (k ≠ 0 ∧ k ≠ 1 ∧ c = some T ∧ (∀ x, a = some x → T < x) ∧ (∀ x, b = some x → T < x)) := by
  rcases argmin3_spec a b c with ⟨e, hba, hca⟩ | ⟨e, hba, hcb⟩ | ⟨e, hca, hcb⟩ <;>
    obtain ⟨rfl, rfl⟩ := Prod.mk.inj (e.symm.trans h)
  · exact .inl ⟨rfl, rfl, fun _ hx => le_of_not_ltInf hba hx rfl, fun _ hx => le_of_not_ltInf hca hx rfl⟩
  · exact .inr (.inl ⟨rfl, rfl, fun _ hx => lt_of_ltInf hba rfl hx, fun _ hx => le_of_not_ltInf hcb hx rfl⟩)
  · exact .inr (.inr ⟨by decide, by decide, rfl, fun _ hx => lt_of_ltInf hca rfl hx, fun _ hx => lt_of_ltInf hcb rfl hx⟩)

/-- what holds at every loop head: below the threshold; the stored prediction `nSpike` is the first crossing of the
current segment (`reach`), or there is none (`never`); no pending event lies in the past (`recLe`, `inLe`); and the next
change point is the one the index points at (`sched`) -/
structure Good (inputs : List (ℝ × ℝ)) (s : St ℝ) : Prop where
  below : s.v < θ
  reach : ∀ Ts, s.nSpike = some Ts → s.t ≤ Ts ∧ advance tau r v_leak θ s.v s.amp (Ts - s.t) = θ ∧
            ∀ u, 0 ≤ u → u < Ts - s.t → advance tau r v_leak θ s.v s.amp u < θ
  never : s.nSpike = none → ∀ u, 0 ≤ u → advance tau r v_leak θ s.v s.amp u < θ
  recLe : ∀ Tr, s.nRec = some Tr → s.t ≤ Tr
  inLe : ∀ Ti, s.nIn = some Ti → s.t ≤ Ti
  sched : s.nIn = (inputs[s.idx]?).map (·.1)

variable {tau r v_leak θ}

/-- a fresh prediction establishes `Good.reach` and `Good.never` -/
theorem fresh_prediction (htau : 0 < tau) {v a T : ℝ} (hv : v < θ) :
    (∀ Ts, (nextSpikeTime tau r v_leak θ v a).map (T + ·) = some Ts →
        T ≤ Ts ∧ advance tau r v_leak θ v a (Ts - T) = θ ∧
          ∀ u, 0 ≤ u → u < Ts - T → advance tau r v_leak θ v a u < θ) ∧
    ((nextSpikeTime tau r v_leak θ v a).map (T + ·) = none →
        ∀ u, 0 ≤ u → advance tau r v_leak θ v a u < θ) := by
  rcases hn : nextSpikeTime tau r v_leak θ v a with _ | ts
  · exact ⟨fun Ts h => (nomatch h), fun _ => spike_none tau r v_leak θ htau v a hv hn⟩
  · obtain ⟨h0, hat, hbefore⟩ := spike_some tau r v_leak θ htau v a ts hv hn
    refine ⟨fun Ts hTs => ?_, fun h => nomatch h⟩
    obtain rfl : T + ts = Ts := Option.some.inj hTs
    rw [add_sub_cancel_left]
    exact ⟨le_add_of_nonneg_right h0, hat, hbefore⟩

/-- advancing along the segment, short of the predicted spike, gives `Good.below` and keeps `reach` and `never` -/
theorem carried_prediction {v a t T : ℝ} {nS : Option ℝ} (htT : t ≤ T)
    (hreach : ∀ Ts, nS = some Ts → t ≤ Ts ∧ advance tau r v_leak θ v a (Ts - t) = θ ∧
        ∀ u, 0 ≤ u → u < Ts - t → advance tau r v_leak θ v a u < θ)
    (hnever : nS = none → ∀ u, 0 ≤ u → advance tau r v_leak θ v a u < θ)
    (hlt : ∀ Ts, nS = some Ts → T < Ts) :
    advance tau r v_leak θ v a (T - t) < θ ∧
    (∀ Ts, nS = some Ts → T ≤ Ts ∧ advance tau r v_leak θ (advance tau r v_leak θ v a (T - t)) a (Ts - T) = θ ∧
        ∀ u, 0 ≤ u → u < Ts - T → advance tau r v_leak θ (advance tau r v_leak θ v a (T - t)) a u < θ) ∧
    (nS = none → ∀ u, 0 ≤ u → advance tau r v_leak θ (advance tau r v_leak θ v a (T - t)) a u < θ) := by
  have hd : 0 ≤ T - t := sub_nonneg.mpr htT
  refine ⟨?_, fun Ts hTs => ?_, fun hn u hu => ?_⟩
  · rcases nS with _ | Ts
    · exact hnever rfl _ hd
    · exact (hreach Ts rfl).2.2 _ hd (sub_lt_sub_right (hlt Ts rfl) t)
  · obtain ⟨_, hat, hbefore⟩ := hreach Ts hTs
    refine ⟨(hlt Ts hTs).le, ?_, fun u hu hlt' => ?_⟩
    · rw [← add, sub_add_sub_cancel', hat]
    · rw [← add]
      exact hbefore _ (add_nonneg hd hu) (by linarith)
  · rw [← add]
    exact hnever hn _ (add_nonneg hd hu)

/-- below the threshold strictly before the event `np.argmin` chooses, whether or not the loop goes on to handle it -/
theorem Good.before_event {inputs : List (ℝ × ℝ)} {s : St ℝ} (hg : Good tau r v_leak θ inputs s) {u : ℝ} (hu : 0 ≤ u)
    (h : ∀ k T, argmin3 s.nSpike s.nRec s.nIn = (k, some T) → s.t + u < T) :
    advance tau r v_leak θ s.v s.amp u < θ := by
  rcases hS : s.nSpike with _ | Ts
  · exact hg.never hS u hu
  · -- the event chosen is no later than the predicted spike
    obtain ⟨k, T, hk, hT⟩ := argmin3_le_fst s.nRec s.nIn Ts
    exact (hg.reach Ts hS).2.2 u hu (lt_sub_iff_add_lt'.mpr ((h k T (hS ▸ hk)).trans_le hT))

variable (tau r v_leak θ)

theorem good_step (htau : 0 < tau) (hθ : 0 < θ) (inputs : List (ℝ × ℝ)) (dur : ℝ) (d : Option ℝ)
    (hd : ∀ x, d = some x → 0 ≤ x)
    (hsorted : ∀ i p q, inputs[i]? = some p → inputs[i + 1]? = some q → p.1 ≤ q.1)
    {s s' : St ℝ} (hg : Good tau r v_leak θ inputs s)
    (hstep : step (lifKern tau r v_leak θ) inputs d dur s = some s') : Good tau r v_leak θ inputs s' := by
  obtain ⟨k, T, hp, hf⟩ := step_eq_some.mp hstep
  rcases argmin3_min _ _ _ _ _ (pick_eq_some.mp hp).2.2 with
    ⟨rfl, ha, hb, hc⟩ | ⟨rfl, hb, ha, hc⟩ | ⟨hk0, hk1, hc, ha, hb⟩
  · -- spike: the pre-reset voltage is exactly the threshold, the reset leaves 0
    obtain ⟨-, hat, -⟩ := hg.reach T ha
    obtain rfl := Option.some.inj hf
    have hv2 : applyReset tau r v_leak θ (advance tau r v_leak θ s.v s.amp (T - s.t)) < θ := by
      rw [hat, reset, sub_self]; exact hθ
    obtain ⟨f1, f2⟩ := fresh_prediction (T := T) (a := s.amp) htau hv2
    exact ⟨hv2, f1, f2, hb, hc, hg.sched⟩
  · -- record: the state moves along the segment, short of the predicted spike
    obtain ⟨c1, c2, c3⟩ := carried_prediction (hg.recLe T hb) hg.reach hg.never ha
    obtain rfl := Option.some.inj hf
    exact ⟨c1, c2, c3, fun Tr hTr => le_of_addInf hd (hb ▸ hTr), hc, hg.sched⟩
  · -- input change: move along the segment, then predict afresh for the new current
    obtain ⟨c1, -, -⟩ := carried_prediction (hg.inLe T hc) hg.reach hg.never ha
    rw [fire_two hk0 hk1] at hf
    obtain ⟨p, hi, rfl⟩ := Option.map_eq_some_iff.mp hf
    obtain ⟨f1, f2⟩ := fresh_prediction (T := T) (a := p.2) htau c1
    refine ⟨c1, f1, f2, fun Tr hTr => (hb Tr hTr).le, fun Ti hTi => ?_, rfl⟩
    obtain ⟨q, hq, rfl⟩ := Option.map_eq_some_iff.mp hTi
    have hT : some T = some p.1 := by rw [← hc, hg.sched, hi]; rfl
    exact Option.some.inj hT ▸ hsorted s.idx p q hi hq

theorem good_init (htau : 0 < tau) (inputs : List (ℝ × ℝ)) (d : Option ℝ) (hd : ∀ x, d = some x → 0 ≤ x)
    (v0 : ℝ) (hv0 : v0 < θ) (ht0 : ∀ p, inputs[0]? = some p → 0 ≤ p.1) {s : St ℝ}
    (h : init (lifKern tau r v_leak θ) 0 v0 inputs d = some s) : Good tau r v_leak θ inputs s := by
  rcases inputs with _ | ⟨⟨t0, a0⟩, rest⟩
  · cases h
  · obtain rfl := Option.some.inj h
    obtain ⟨f1, f2⟩ := fresh_prediction (T := 0) (a := 0) htau hv0
    exact ⟨hv0, f1, f2, hd, fun Ti hTi => Option.some.inj hTi ▸ ht0 (t0, a0) rfl, rfl⟩

theorem good_all (htau : 0 < tau) (hθ : 0 < θ) (inputs : List (ℝ × ℝ)) (dur : ℝ) (d : Option ℝ)
    (hd : ∀ x, d = some x → 0 ≤ x)
    (hsorted : ∀ i p q, inputs[i]? = some p → inputs[i + 1]? = some q → p.1 ≤ q.1)
    (v0 : ℝ) (hv0 : v0 < θ) (ht0 : ∀ p, inputs[0]? = some p → 0 ≤ p.1) {s : St ℝ}
    (h : init (lifKern tau r v_leak θ) 0 v0 inputs d = some s) (n : Nat) :
    Good tau r v_leak θ inputs (iter (lifKern tau r v_leak θ) inputs d dur n s) := by
  induction n with
  | zero => exact good_init tau r v_leak θ htau inputs d hd v0 hv0 ht0 h
  | succ n ih =>
    rw [iter_succ']
    rcases next_cases d _ with hn | hs
    · rwa [hn]
    · exact good_step tau r v_leak θ htau hθ inputs dur d hd hsorted ih hs

/-- **Every spike is recorded exactly at a threshold crossing**: whenever the loop (at any point of
any run, by `good_all`) handles a spike event at time `T`, the exact solution of the current segment is
at the threshold at `T` — and strictly below it at every earlier instant of the segment. -/
theorem spike_event_at_threshold {inputs : List (ℝ × ℝ)} {dur : ℝ} {s : St ℝ} {T : ℝ}
    (hg : Good tau r v_leak θ inputs s) (hp : pick dur s = some (0, T)) :
    s.t ≤ T ∧ advance tau r v_leak θ s.v s.amp (T - s.t) = θ ∧
      ∀ u, 0 ≤ u → u < T - s.t → advance tau r v_leak θ s.v s.amp u < θ := by
  rcases argmin3_min _ _ _ _ _ (pick_eq_some.mp hp).2.2 with ⟨_, ha, _, _⟩ | ⟨h1, _⟩ | ⟨h0, _⟩
  · exact hg.reach T ha
  · exact absurd h1 (by decide)
  · exact absurd rfl h0

/-- **No crossing is missed**: strictly before the instant `T` of the next event the loop handles
(whatever its kind), the exact solution of the current segment is strictly below the threshold.  About
`T` itself nothing is said here: the state the event leaves is `Good` again (`good_step`). -/
theorem below_between_events {inputs : List (ℝ × ℝ)} {dur : ℝ} {s : St ℝ} {k : Nat} {T : ℝ}
    (hg : Good tau r v_leak θ inputs s) (hp : pick dur s = some (k, T)) :
    ∀ u, 0 ≤ u → u < T - s.t → advance tau r v_leak θ s.v s.amp u < θ := by
  intro u hu hlt
  refine hg.before_event hu fun k' T' h' => ?_
  cases h'.symm.trans (pick_eq_some.mp hp).2.2
  exact lt_sub_iff_add_lt'.mp hlt

/-- … and when the loop is left at `t ≤ duration` (no event up to `duration`), the solution stays
strictly below the threshold up to `duration`, inclusive. -/
theorem below_after_last_event {inputs : List (ℝ × ℝ)} {dur : ℝ} {s : St ℝ}
    (hg : Good tau r v_leak θ inputs s) (ht : s.t ≤ dur) (hh : Halted dur s) :
    ∀ u, 0 ≤ u → s.t + u ≤ dur → advance tau r v_leak θ s.v s.amp u < θ := by
  intro u hu hle
  refine hg.before_event hu fun k T hk => hle.trans_lt (not_le.mp fun hTd => ?_)
  -- the loop was left although `t ≤ duration`: the event chosen lies beyond `duration`
  cases hh.symm.trans (pick_eq_some.mpr ⟨ht, hTd, hk⟩)
end

end NirVerif.C20
