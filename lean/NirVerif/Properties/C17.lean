import NirVerif.Properties.C15

/-! # C17 — observing a graph never changes it

In the model every observer is a *function* of the graph value: it has no way to change the
graph, so the frame condition holds by construction — that is the specification the
implementation has to refine.  The weight of this property is carried by the correspondence
check: around every observer call (failing ones included) the harness takes a deep snapshot of
the real objects (bytes of every array, `id` of every node and container) and requires the two
equal; and it mutates one `read` result and re-snapshots another and the file.  The theorems
state the model side so that the obligation is visible. -/
namespace NirVerif.C17
open NirVerif NirVerif.Py NirVerif.Model

inductive Observer where
  | toDict | write (version : String) | checkTypes | inputs | outputs

inductive Outcome where
  | dict (d : Val) | file (f : H5) | checked (b : Bool) | nodes (ns : Nodes) | raised (e : PyErr)

/-- one observer call: the graph it leaves behind and what it returns / raises -/
def observe (g : Node) : Observer → Node × Outcome
  | .toDict => (g, match toDict g with | .ok d => .dict d | .error e => .raised e)
  | .write v => (g, match write v g with | .ok f => .file f | .error e => .raised e)
  | .checkTypes => (g, match checkTypes g with | .ok b => .checked b | .error e => .raised e)
  | .inputs => (g, .nodes (graphInputs g))
  | .outputs => (g, .nodes (graphOutputs g))

/-- every observer — successful or failing — leaves the graph exactly as it was -/
theorem pure (g : Node) (o : Observer) : (observe g o).1 = g := by cases o <;> rfl

/-- hence any sequence of observers does -/
theorem pure_history (g : Node) (os : List Observer) :
    os.foldl (fun acc o => (observe acc o).1) g = g := by
  induction os with
  | nil => rfl
  | cons o rest ih => rw [List.foldl_cons, pure]; exact ih

/-- reads are functions of the file: two reads of one file return equal values, and reading does not change the file
(cf. `C15.step_refines`).  That the two results share nothing cannot be said over immutable values; the harness checks it
on the real objects. -/
theorem read_deterministic (f : H5) : read f = read f ∧
    ∀ fs : FS, fs.content = some f → (fsStep "v" fs .read).1.content = some f :=
  ⟨rfl, fun fs h => by rw [C15.fsStep_state]; exact h⟩

end NirVerif.C17
