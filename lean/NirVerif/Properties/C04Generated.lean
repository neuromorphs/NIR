import NirVerif.Properties.C04
import NirVerif.Generated.ReadShape
import NirVerif.Generated.WriteShape

/-! # C04 — the reader's skeleton, as the source states it (translator item T19)

The model's reader (`Model.read`: `Model.hdf2dict` — `h5Load` on every dataset, a dictionary for every group — then
`fromDict`) is hand-written.  T19 checks on every run that `nir/serialization.py` has that shape (`read` hands
`hdf2dict(f[<root>])` to `dict2NIRNode`; `hdf2dict` fills a **fresh** dictionary per call and per group, sending every key
and every `item[()]` through `try_byte_to_str`, which decodes `bytes` and returns anything else unchanged) and regenerates
the literals involved.  The theorem ties them to the writer's (T13): the reader opens the group the writer fills, under
the codec the strings were written in. -/
namespace NirVerif.C04
open NirVerif

theorem reader_generated :
    Generated.readRootName = Generated.rootNodeName ∧ Generated.versionName = Generated.rootVersionName ∧
    Generated.readCodec = "utf8" ∧ Generated.versionCodec = "utf8" ∧
    Generated.readerFreshDictPerCall = true ∧ Generated.readerDecodesKeys = true ∧
    Generated.readerLoadsWholeDataset = true := by
  decide +kernel

end NirVerif.C04
