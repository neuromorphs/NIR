import NirVerif.Lemmas.Construct
import NirVerif.Lemmas.Dict

/-! # C19 — constructors accept exactly the well-formed parameter sets

About `Model.postInit` (hand-written model of each `__post_init__`; tied to the constructors
by the `nodes` correspondence suite, which includes an ill-formed stream). -/
namespace NirVerif.C19
open NirVerif NirVerif.Py NirVerif.Model NirVerif.Lemmas

def accepted (r : Except PyErr Node) : Prop := ∃ n, r = .ok n

/-- the node's types are fully defined single-entry dictionaries -/
def TypesDefined (n : Node) : Prop :=
  (∃ v, n.inputType = .dict [("input", v)] ∧ v ≠ .none) ∧ (∃ v, n.outputType = .dict [("output", v)] ∧ v ≠ .none)

theorem typesDefined_elementwise (kind : String) (f fields : List (String × Val)) (sh : List Nat) :
    TypesDefined (leafNode kind f fields (elementwiseTypes sh)) :=
  ⟨⟨_, rfl, nofun⟩, ⟨_, rfl, nofun⟩⟩

/-- the shape of the theorems below: a constructor that tests one condition, raises `e` when it fails and builds `n`
otherwise -/
theorem guarded {r : Except PyErr Node} {c : Prop} [Decidable c] {e : PyErr} {n : Node}
    (h : r = if c then .ok n else .error e) :
    (accepted r ↔ c) ∧ (¬ accepted r → r = .error e) ∧ ∀ m, r = .ok m → m = n := by
  subst h
  by_cases hc : c <;> simp [accepted, hc, eq_comm]

theorem guarded_defined {r : Except PyErr Node} {c : Prop} [Decidable c] {e : PyErr} {n : Node}
    (h : r = if c then .ok n else .error e) (hn : TypesDefined n) :
    (accepted r ↔ c) ∧ (¬ accepted r → r = .error e) ∧ ∀ m, r = .ok m → TypesDefined m :=
  ⟨(guarded h).1, (guarded h).2.1, fun m hm => (guarded h).2.2 m hm ▸ hn⟩

/-- one link of Python's chain `a == b == …`: `assertSameShape` compares every shape with the first, the chain compares
neighbours -/
theorem all_eq_cons {α : Type} {a b : α} {l : List α} : (∀ t ∈ b :: l, t = a) ↔ a = b ∧ ∀ t ∈ l, t = b := by
  constructor
  · intro h
    cases h b List.mem_cons_self
    exact ⟨rfl, fun t ht => h t (List.mem_cons_of_mem _ ht)⟩
  · rintro ⟨rfl, h⟩ t ht
    rcases List.mem_cons.mp ht with rfl | ht
    · rfl
    · exact h t ht

/-- IF, LI, LIF with every compared parameter given, `s :: ss` the shapes in the order of the assertion: constructed iff
all shapes are the first one, AssertionError otherwise, and an accepted node has fully defined types. -/
theorem neuron {kind : String} {ps : List String} (hk : lookup kind neuronParams = some ps)
    {f : List (String × Val)} {vs : List Val} {s : List Nat} {ss : List (List Nat)}
    (hv : ps.map (lookup · f) = vs.map some) (hs : vs.mapM getShape = .ok (s :: ss)) :
    (accepted (postInit kind f) ↔ ∀ t ∈ ss, t = s) ∧
    (¬ accepted (postInit kind f) → postInit kind f = .error .assertionError) ∧
    (∀ n, postInit kind f = .ok n → TypesDefined n) :=
  guarded_defined (postInit_neuron_of (mem_of_lookup _ _ _ hk) hv hs) (typesDefined_elementwise ..)

/-- IF is constructed iff its two parameter arrays have one common shape; it raises
AssertionError otherwise, and an accepted node has fully defined types. -/
theorem neuron_IF (f : List (String × Val)) (d1 d2 : DType) (s1 s2 : List Nat) (b1 b2 : Bytes)
    (h1 : lookup "r" f = some (.arr d1 s1 b1)) (h2 : lookup "v_threshold" f = some (.arr d2 s2 b2)) :
    (accepted (postInit "IF" f) ↔ s1 = s2) ∧
    (¬ accepted (postInit "IF" f) → postInit "IF" f = .error .assertionError) ∧
    (∀ n, postInit "IF" f = .ok n → TypesDefined n) := by
  have := neuron (kind := "IF") rfl (f := f) (vs := [.arr d1 s1 b1, .arr d2 s2 b2]) (by simp [*]) rfl
  simpa only [all_eq_cons, List.not_mem_nil, false_imp_iff, implies_true, and_true] using this

/-- LI: three arrays, one common shape. -/
theorem neuron_LI (f : List (String × Val)) (d1 d2 d3 : DType) (s1 s2 s3 : List Nat) (b1 b2 b3 : Bytes)
    (h1 : lookup "tau" f = some (.arr d1 s1 b1)) (h2 : lookup "r" f = some (.arr d2 s2 b2))
    (h3 : lookup "v_leak" f = some (.arr d3 s3 b3)) :
    (accepted (postInit "LI" f) ↔ (s1 = s2 ∧ s2 = s3)) ∧
    (¬ accepted (postInit "LI" f) → postInit "LI" f = .error .assertionError) ∧
    (∀ n, postInit "LI" f = .ok n → TypesDefined n) := by
  have := neuron (kind := "LI") rfl (f := f) (vs := [.arr d1 s1 b1, .arr d2 s2 b2, .arr d3 s3 b3]) (by simp [*]) rfl
  simpa only [all_eq_cons, List.not_mem_nil, false_imp_iff, implies_true, and_true] using this

/-- LIF: four arrays, one common shape. -/
theorem neuron_LIF (f : List (String × Val)) (d1 d2 d3 d4 : DType) (s1 s2 s3 s4 : List Nat) (b1 b2 b3 b4 : Bytes)
    (h1 : lookup "tau" f = some (.arr d1 s1 b1)) (h2 : lookup "r" f = some (.arr d2 s2 b2))
    (h3 : lookup "v_leak" f = some (.arr d3 s3 b3)) (h4 : lookup "v_threshold" f = some (.arr d4 s4 b4)) :
    (accepted (postInit "LIF" f) ↔ (s1 = s2 ∧ s2 = s3 ∧ s3 = s4)) ∧
    (¬ accepted (postInit "LIF" f) → postInit "LIF" f = .error .assertionError) ∧
    (∀ n, postInit "LIF" f = .ok n → TypesDefined n) := by
  have := neuron (kind := "LIF") rfl (f := f) (vs := [.arr d1 s1 b1, .arr d2 s2 b2, .arr d3 s3 b3, .arr d4 s4 b4])
    (by simp [*]) rfl
  simpa only [all_eq_cons, List.not_mem_nil, false_imp_iff, implies_true, and_true] using this

/-- Affine / Linear are constructed iff the weight has rank ≥ 2 (AssertionError otherwise). -/
theorem weight_rank (kind : String) (hk : kind = "Affine" ∨ kind = "Linear")
    (f : List (String × Val)) (dt : DType) (sh : List Nat) (d : Bytes)
    (hw : lookup "weight" f = some (.arr dt sh d)) :
    (accepted (postInit kind f) ↔ 2 ≤ sh.length) ∧
    (¬ accepted (postInit kind f) → postInit kind f = .error .assertionError) ∧
    (∀ n, postInit kind f = .ok n → TypesDefined n) :=
  guarded_defined (postInit_matvec_of hk hw rfl) ⟨⟨_, rfl, nofun⟩, ⟨_, rfl, nofun⟩⟩

/-- Conv1d / Conv2d with the shape left to inference: the padding guard, and nothing else, can reject -/
theorem postInit_conv_deferred {kind : String} (hk : kind = "Conv1d" ∨ kind = "Conv2d") {f : List (String × Val)}
    {p : Val} (hp : lookup "padding" f = some p) (hi : lookup "input_shape" f = some .none)
    (hs : (lookup "stride" f).isSome) (hd : (lookup "dilation" f).isSome) :
    ∃ n, postInit kind f = (do convPaddingCheck p; pure n) := by
  obtain ⟨sv, hsv⟩ := Option.isSome_iff_exists.mp hs
  obtain ⟨dv, hdv⟩ := Option.isSome_iff_exists.mp hd
  rcases hk with rfl | rfl
  · exact ⟨_, by rw [postInit_conv1d, conv1dInit, arg_eq_ok.mpr hp, arg_eq_ok.mpr hi]; rfl⟩
  · exact ⟨_, by rw [postInit_conv2d, conv2dInit, arg_eq_ok.mpr hp, arg_eq_ok.mpr hi, arg_eq_ok.mpr hsv, arg_eq_ok.mpr hdv]; rfl⟩

/-- A padding *string* is accepted iff it is 'same' or 'valid' (here with the shape left to
inference, so that nothing else can reject the node); `bytes` are never accepted. -/
theorem padding_string (kind : String) (hk : kind = "Conv1d" ∨ kind = "Conv2d")
    (f : List (String × Val)) (s : String)
    (hp : lookup "padding" f = some (.str s)) (hi : lookup "input_shape" f = some .none)
    (hs : (lookup "stride" f).isSome) (hd : (lookup "dilation" f).isSome) :
    (accepted (postInit kind f) ↔ (s = "same" ∨ s = "valid")) ∧
    (¬ accepted (postInit kind f) → postInit kind f = .error .valueError) := by
  obtain ⟨n, e⟩ := postInit_conv_deferred hk hp hi hs hd
  have h := guarded (r := postInit kind f) (c := s = "same" ∨ s = "valid") (e := .valueError) (n := n)
    (by rw [e]; simp only [convPaddingCheck, Bool.or_eq_true, beq_iff_eq]; split <;> rfl)
  exact ⟨h.1, h.2.1⟩

theorem padding_bytes (kind : String) (hk : kind = "Conv1d" ∨ kind = "Conv2d")
    (f : List (String × Val)) (b : Bytes) (hp : lookup "padding" f = some (.bytes b)) :
    postInit kind f = .error .valueError := by
  rcases hk with rfl | rfl
  · rw [postInit_conv1d, conv1dInit, arg_eq_ok.mpr hp]; rfl
  · rw [postInit_conv2d, conv2dInit, arg_eq_ok.mpr hp]; rfl

/-- `np.ones_like(v_threshold) * w_in` for arrays of one float dtype: numpy's broadcast of the two shapes, or ValueError -/
theorem materialiseWIn_arr (dt : DType) (hdt : dt.kind = .float) (s wsh : List Nat) (b wdata : Bytes) :
    match broadcastShapes s wsh with
    | some out => ∃ w, materialiseWIn (.arr dt s b) (.arr dt wsh wdata) = .ok w ∧ Val.shape? w = some out
    | none => materialiseWIn (.arr dt s b) (.arr dt wsh wdata) = .error .valueError := by
  cases h : broadcastShapes s wsh with
  | none => simp [materialiseWIn, materialiseWInShape, hdt, h]
  | some out => cases out <;> simp [materialiseWIn, materialiseWInShape, hdt, h, Val.shape?]

/-- CubaLIF with the five parameter arrays of one common shape `s` and an input weight given
as an array of the same float dtype: constructed iff the weight broadcasts *to* `s`
(numpy's rule, result shape `s`), and the stored weight is then materialised to shape `s`. -/
theorem cuba_w_in (f : List (String × Val)) (dt : DType) (hdt : dt.kind = .float) (s wsh : List Nat)
    (d1 d2 d3 d4 : DType) (b1 b2 b3 b4 b5 wdata : Bytes)
    (h1 : lookup "tau_syn" f = some (.arr d1 s b1)) (h2 : lookup "tau_mem" f = some (.arr d2 s b2))
    (h3 : lookup "r" f = some (.arr d3 s b3)) (h4 : lookup "v_leak" f = some (.arr d4 s b4))
    (h5 : lookup "v_threshold" f = some (.arr dt s b5)) (hw : lookup "w_in" f = some (.arr dt wsh wdata)) :
    (accepted (postInit "CubaLIF" f) ↔ broadcastShapes s wsh = some s) ∧
    (∀ n, postInit "CubaLIF" f = .ok n → TypesDefined n ∧ (n.field? "w_in").bind Val.shape? = some s) := by
  have e : postInit "CubaLIF" f = (do
      let w ← materialiseWIn (.arr dt s b5) (.arr dt wsh wdata)
      if (← getShape w) != s then throw .assertionError else
      pure (leafNode "CubaLIF" f (insert "w_in" w (plainOf f)) (elementwiseTypes s))) := by
    let vs : List Val := [.arr d1 s b1, .arr d2 s b2, .arr d3 s b3, .arr d4 s b4, .arr dt s b5]
    have ha : assertSameShape vs = .ok s := (assertSameShape_eq rfl).trans (if_pos (by simp))
    rw [postInit_cuba, cubaInit, mapM_arg (vs := vs) (by simp [vs, *]), ok_bind, ha, arg_eq_ok.mpr h5, arg_eq_ok.mpr hw]; rfl
  have hm := materialiseWIn_arr dt hdt s wsh b5 wdata
  cases hb : broadcastShapes s wsh with
  | none =>
    rw [hb] at hm
    simp [e, hm, accepted]
  | some out =>
    rw [hb] at hm
    obtain ⟨w, hw1, hw2⟩ := hm
    have h := guarded (r := postInit "CubaLIF" f) (c := out = s) (e := .assertionError)
      (n := leafNode "CubaLIF" f (insert "w_in" w (plainOf f)) (elementwiseTypes s))
      (by simp only [e, hw1, getShape, hw2, ok_bind]; by_cases ho : out = s <;> simp [ho] <;> rfl)
    refine ⟨by simpa using h.1, fun n hn => ?_⟩
    have ho := h.1.mp ⟨n, hn⟩
    rw [h.2.2 n hn]
    exact ⟨typesDefined_elementwise .., by simp [Node.field?, leafNode, Node.fields, lookup_insert_self, hw2, ho]⟩

/-- Non-vacuity: LIF with shapes (2,3),(2,3),(2,3),(2,3) is accepted; with one (3,2) it is not. -/
example : accepted (postInit "LIF" [("tau", .arr DType.float64 [2, 3] []), ("r", .arr DType.float64 [2, 3] []),
    ("v_leak", .arr DType.float64 [2, 3] []), ("v_threshold", .arr DType.float64 [2, 3] [])]) :=
  (neuron_LIF _ _ _ _ _ _ _ _ _ _ _ _ _ (by rfl) (by rfl) (by rfl) (by rfl)).1.mpr
    ⟨rfl, rfl, rfl⟩
example : postInit "LIF" [("tau", .arr DType.float64 [2, 3] []), ("r", .arr DType.float64 [2, 3] []),
    ("v_leak", .arr DType.float64 [3, 2] []), ("v_threshold", .arr DType.float64 [2, 3] [])]
    = .error .assertionError := by rfl

end NirVerif.C19
