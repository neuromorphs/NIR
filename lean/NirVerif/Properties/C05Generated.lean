import NirVerif.Properties.C05Stable
import NirVerif.Generated.DeclaredTypes
import NirVerif.Generated.NeuronShapes

/-! # C05 — the declared types as the constructors spell them (translator item T17)

`Properties/C05.lean` proves that the *model's* `postInit` declares the shapes the mathematics implies.  Here the
right-hand sides of `self.input_type = {"input": np.array(…)}` / `self.output_type = {"output": np.array(…)}` in the
`__post_init__` of the ten parameterised primitives are regenerated from the source as shape expressions
(`Spec.ShapeE`: `self.f.shape`, constant slices and items of it, concatenation) and evaluated with Python's slicing rules. -/
namespace NirVerif.C05
open NirVerif NirVerif.Py NirVerif.Spec NirVerif.Generated

theorem slice_front (batch : List Nat) (m n : Nat) : Py.slice (batch ++ [m, n]) none (some (-2)) = batch := by
  have : Py.normBound (batch.length + 2) (-2) = batch.length := by
    simp [Py.normBound]; omega
  simp [Py.slice, this]

theorem slice_last (batch : List Nat) (m n : Nat) : Py.slice (batch ++ [m, n]) (some (-1)) none = [n] := by
  have : Py.normBound (batch.length + 2) (-1) = batch.length + 1 := by
    simp [Py.normBound]; omega
  simp [Py.slice, this]

theorem index_second_last (batch : List Nat) (m n : Nat) : Py.index? (batch ++ [m, n]) (-2) = some m := by
  have h1 : ¬ ((-2 : Int) + ((batch.length : Int) + 2) < 0) := by omega
  have h2 : ((-2 : Int) + ((batch.length : Int) + 2)).toNat = batch.length := by omega
  simp [Py.index?, h1, h2]

/-- Affine / Linear: on every weight shape `batch ++ [m, n]` the regenerated expressions evaluate to `batch ++ [n]` /
`batch ++ [m]` — what `C05.affine_linear` proves the model declares.  Both are non-empty, so the absent `dtype=int` cannot
matter: `np.array` of a non-empty tuple of Python ints is int64, of the empty tuple it would be float64 (defect F5). -/
theorem matvec_generated (cls : String) (hc : cls = "Affine" ∨ cls = "Linear") :
    ∃ ein eout bi bo, lookup cls declaredTypes = some ((ein, bi), (eout, bo)) ∧
      ∀ (batch : List Nat) (m n : Nat) (shapeOf : String → List Nat), shapeOf "weight" = batch ++ [m, n] →
        ein.eval shapeOf = some (batch ++ [n]) ∧ eout.eval shapeOf = some (batch ++ [m]) ∧
        batch ++ [n] ≠ [] ∧ batch ++ [m] ≠ [] := by
  rcases hc with rfl | rfl
  all_goals
    refine ⟨_, _, _, _, rfl, fun batch m n shapeOf hs => ?_⟩
    simp [ShapeE.eval, hs, slice_front, slice_last, index_second_last, bind, Option.bind]

/-- the eight element-wise primitives: both declared types are the whole shape of one parameter, with `dtype=int` -/
theorem elementwise_generated :
    ∀ r ∈ [("Scale", "scale"), ("Threshold", "threshold"), ("Delay", "delay"), ("I", "r"), ("IF", "r"), ("LI", "r"),
            ("LIF", "r"), ("CubaLIF", "v_threshold")],
      lookup r.1 declaredTypes = some ((.whole r.2, true), (.whole r.2, true)) := by
  decide +kernel

/-- … and for the neuron classes with several parameters it is the parameter T9 names as the type source -/
theorem elementwise_source_generated :
    ∀ r ∈ typeSourceField, lookup r.1 declaredTypes = some ((.whole r.2, true), (.whole r.2, true)) := by
  decide +kernel

end NirVerif.C05
