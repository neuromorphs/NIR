import NirVerif.Lemmas.Construct
import NirVerif.Spec.TensorShape

/-! # C05 — declared node types equal the shapes the primitive's mathematics implies

About `Model.postInit` / `Model.construct` (hand-written model of every `__post_init__`, over
the *generated* field table; tied to the constructors by the `nodes` correspondence suite).
`Spec.matvecShape` / `Spec.elementwiseShape` are the shape relations of the documented
equations.  Stability under dict / file round trips: `Properties/C05Stable.lean`. -/
namespace NirVerif.C05
open NirVerif NirVerif.Py NirVerif.Model NirVerif.Lemmas

/-- the declared type is a single-entry dictionary holding an int64 vector equal to `s` -/
def Declares (t : Val) (key : String) (s : List Nat) : Prop :=
  t = .dict [(key, .arr DType.int64 [s.length] (encodeInts DType.int64 (s.map Int.ofNat)))]

theorem declares_shapeVal (key : String) (s : List Nat) : Declares (typeDict key (shapeVal s)) key s := by
  simp [Declares, typeDict, shapeVal, Val.ofInts]

/-- Affine / Linear: for a weight of shape `batch ++ [m, n]` (rank ≥ 2) the node is built and
declares input `batch ++ [n]`, output `batch ++ [m]` as int64 vectors — exactly the operand
the matrix–vector product over leading batch dimensions consumes and the result it produces. -/
theorem affine_linear (kind : String) (hk : kind = "Affine" ∨ kind = "Linear")
    (f : List (String × Val)) (dt : DType) (batch : List Nat) (m n : Nat) (d : Bytes)
    (hw : lookup "weight" f = some (.arr dt (batch ++ [m, n]) d)) :
    ∃ node, postInit kind f = .ok node ∧
      Declares node.inputType "input" (batch ++ [n]) ∧ Declares node.outputType "output" (batch ++ [m]) ∧
      (∀ x, (Spec.matvecShape (batch ++ [m, n]) x).isSome ↔ x = batch ++ [n]) ∧
      Spec.matvecShape (batch ++ [m, n]) (batch ++ [n]) = some (batch ++ [m]) := by
  have hspec : ∀ x, Spec.matvecShape (batch ++ [m, n]) x = if x = batch ++ [n] then some (batch ++ [m]) else none := by
    intro x; simp [Spec.matvecShape]
  have e : postInit kind f = .ok (leafNode kind f (plainOf f)
      (typeDict "input" (shapeVal (batch ++ [n])), typeDict "output" (shapeVal (batch ++ [m])))) := by
    rw [postInit_matvec_of hk hw rfl]; simp
  refine ⟨_, e, declares_shapeVal .., declares_shapeVal .., ?_, ?_⟩
  · intro x; rw [hspec]; split <;> simp_all
  · rw [hspec]; simp

theorem declares_elementwise (kind : String) (f fields : List (String × Val)) (sh : List Nat) :
    Declares (leafNode kind f fields (elementwiseTypes sh)).inputType "input" sh ∧
    Declares (leafNode kind f fields (elementwiseTypes sh)).outputType "output" sh :=
  ⟨declares_shapeVal .., declares_shapeVal ..⟩

/-- Element-wise primitives with one parameter: the declared types are the parameter's shape
(any rank, rank 0 included) as int64 vectors — the shape on which `x ⊙ p` / `x > p` /
`x(t-p)` is defined and which it produces. -/
theorem elementwise1 (kind field : String)
    (hk : (kind, field) ∈ [("Scale", "scale"), ("Threshold", "threshold"), ("Delay", "delay"), ("I", "r")])
    (f : List (String × Val)) (dt : DType) (sh : List Nat) (d : Bytes)
    (hp : lookup field f = some (.arr dt sh d)) :
    ∃ node, postInit kind f = .ok node ∧
      Declares node.inputType "input" sh ∧ Declares node.outputType "output" sh ∧
      (∀ x, (Spec.elementwiseShape sh x).isSome ↔ x = sh) ∧ Spec.elementwiseShape sh sh = some sh := by
  refine ⟨_, by rw [postInit_elementwise hk, elementwiseInit, arg_eq_ok.mpr hp]; rfl, (declares_elementwise ..).1,
    (declares_elementwise ..).2, ?_, ?_⟩
  · intro x; simp [Spec.elementwiseShape]
  · simp [Spec.elementwiseShape]

/-- Neuron models: when all parameter arrays have the common shape `sh`, the node is built
and declares `sh` on both sides. -/
theorem neuron (kind : String) (fields : List String)
    (hk : (kind, fields) ∈ [("IF", ["r", "v_threshold"]), ("LI", ["tau", "r", "v_leak"]),
                            ("LIF", ["tau", "r", "v_leak", "v_threshold"])])
    (f : List (String × Val)) (sh : List Nat)
    (hp : ∀ fld ∈ fields, ∃ dt d, lookup fld f = some (.arr dt sh d)) :
    ∃ node, postInit kind f = .ok node ∧
      Declares node.inputType "input" sh ∧ Declares node.outputType "output" sh := by
  obtain ⟨vs, hv, hs⟩ := exists_args_of_shape fields fun fld hf => (hp fld hf).elim fun dt ⟨d, h⟩ => ⟨_, h, rfl⟩
  refine ⟨_, ?_, declares_elementwise kind f (plainOf f) sh⟩
  obtain ⟨fld, flds, rfl⟩ : ∃ fld flds, fields = fld :: flds := by
    simp only [List.mem_cons, Prod.mk.injEq, List.mem_nil_iff, or_false] at hk
    rcases hk with ⟨-, rfl⟩ | ⟨-, rfl⟩ | ⟨-, rfl⟩ <;> exact ⟨_, _, rfl⟩
  rw [postInit_neuron_of hk hv hs, if_pos (by simp)]

/-- Input / Output given the shape as a one-dimensional ndarray of any dtype: identity — both sides carry that very
array. -/
theorem io_ndarray (dt : DType) (n : Nat) (d : Bytes) (md : Val) :
    (∃ node, construct "Input" [("input_type", .arr dt [n] d), ("metadata", md)] = .ok node ∧
      node.inputType = typeDict "input" (.arr dt [n] d) ∧ node.outputType = typeDict "output" (.arr dt [n] d)) ∧
    (∃ node, construct "Output" [("output_type", .arr dt [n] d), ("metadata", md)] = .ok node ∧
      node.inputType = typeDict "input" (.arr dt [n] d) ∧ node.outputType = typeDict "output" (.arr dt [n] d)) :=
  ⟨⟨_, construct_input_md .., rfl, rfl⟩, ⟨_, construct_output_md .., rfl, rfl⟩⟩

theorem parseShapeArgument_ints (s : List Nat) (hs : s ≠ []) (asTuple : Bool) (key : String) :
    parseShapeArgument (if asTuple then Val.tuple (s.map fun k => Val.int (Int.ofNat k))
                        else Val.list (s.map fun k => Val.int (Int.ofNat k))) key = .ok (typeDict key (shapeVal s)) := by
  have h1 : List.mapM (Val.asInt? ∘ fun k : Nat => Val.int (k : Int)) s = some (s.map Int.ofNat) := by
    induction s with
    | nil => rfl
    | cons x xs ih => cases xs <;> simp_all [List.mapM_cons, Val.asInt?]
  cases asTuple <;> simp [parseShapeArgument, h1, shapeArray, shapeVal, hs]

/-- Input / Output given a non-empty list or tuple of Python ints: the shape is normalised to
an int64 vector and mirrored to the other side. -/
theorem io_sequence (s : List Nat) (hs : s ≠ []) (asTuple : Bool) :
    let arg := if asTuple then Val.tuple (s.map fun k => Val.int (Int.ofNat k))
               else Val.list (s.map fun k => Val.int (Int.ofNat k))
    (∃ node, construct "Input" [("input_type", arg)] = .ok node ∧
      Declares node.inputType "input" s ∧ Declares node.outputType "output" s) ∧
    (∃ node, construct "Output" [("output_type", arg)] = .ok node ∧
      Declares node.inputType "input" s ∧ Declares node.outputType "output" s) := by
  refine ⟨⟨.mk "Input" [] _ _ (.dict []) [] [], ?_, declares_shapeVal "input" s, declares_shapeVal "output" s⟩,
    ⟨.mk "Output" [] _ _ (.dict []) [] [], ?_, declares_shapeVal "input" s, declares_shapeVal "output" s⟩⟩
  · rw [construct_input, parseShapeArgument_ints s hs, ok_bind, getItem_typeDict]; rfl
  · rw [construct_output, parseShapeArgument_ints s hs, ok_bind, getItem_typeDict]; rfl

/-- Non-vacuity: a batched weight (2,3,4,5): input [2,3,5], output [2,3,4]. -/
example : ∃ node, postInit "Linear" [("weight", .arr DType.float64 [2, 3, 4, 5] [])] = .ok node ∧
    Declares node.inputType "input" [2, 3, 5] ∧ Declares node.outputType "output" [2, 3, 4] := by
  obtain ⟨node, h1, h2, h3, _⟩ := affine_linear "Linear" (Or.inr rfl) [("weight", .arr DType.float64 [2, 3, 4, 5] [])]
    DType.float64 [2, 3] 4 5 [] (by simp [lookup])
  exact ⟨node, h1, h2, h3⟩

end NirVerif.C05
