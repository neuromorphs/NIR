import NirVerif.Properties.C03
import NirVerif.Lemmas.DictExact

/-! # C13 — the dictionary form is a faithful, independent copy

About `Model.toDict` / `Model.fromDict`.  Values in the model are immutable (`Val`), so the
dictionary cannot share mutable state with the graph *in the model*; that the real
`to_dict` creates fresh objects (no common `id`, no shared memory, mutation of one side
invisible on the other) is observed by the `dicts` correspondence/oracle suite on every run.
Kernel-checked here: what the dictionary contains, and that reading it back re-runs the
constructor on exactly the node's own field values. -/
namespace NirVerif.C13
open NirVerif NirVerif.Py NirVerif.Model NirVerif.Lemmas

/-- **Keys**: the dictionary of a leaf of any class but Input, Output and Flatten (whose `to_dict` adds a class-specific
entry) has exactly the node's fields (in order), `metadata` and `type` — the documented names by `C03.names`. -/
theorem keys (kind : String) (fields : List (String × Val)) (it ot md : Val)
    (hk : kind ≠ "NIRGraph" ∧ kind ≠ "Input" ∧ kind ≠ "Output" ∧ kind ≠ "Flatten") :
    ∃ d, toDict (Node.mk kind fields it ot md [] []) = .ok (.dict d) ∧
      d.map Prod.fst = fields.map Prod.fst ++ ["metadata", "type"] :=
  ⟨_, C03.toDict_keys_generic kind fields it ot md hk, by simp⟩

/-- for the same classes `to_dict` does not write the node's derived types: the dictionary has an `input_type` /
`output_type` entry only if the fields have one -/
theorem no_types (kind : String) (fields : List (String × Val)) (it ot md : Val)
    (hk : kind ≠ "NIRGraph" ∧ kind ≠ "Input" ∧ kind ≠ "Output" ∧ kind ≠ "Flatten")
    (hf : lookup "input_type" fields = none ∧ lookup "output_type" fields = none) :
    ∃ d, toDict (Node.mk kind fields it ot md [] []) = .ok (.dict d) ∧
      lookup "input_type" d = none ∧ lookup "output_type" d = none := by
  exact ⟨_, C03.toDict_keys_generic kind fields it ot md hk, by rw [lookup_append, hf.1]; rfl,
    by rw [lookup_append, hf.2]; rfl⟩

/-- **Round trip** (the same classes, which have no `from_dict` of their own either): `from_dict(to_dict(n))` re-runs the
class constructor on exactly the node's own current field values and metadata — identical Python/numpy value types, `None`
annotations (e.g. an erased Conv `input_shape`) carried as they are. -/
theorem roundtrip (kind : String) (fields : List (String × Val)) (it ot md : Val)
    (hw : kind ∈ Generated.whitelist)
    (hk : kind ≠ "NIRGraph" ∧ kind ≠ "Input" ∧ kind ≠ "Output" ∧ kind ≠ "Flatten")
    (hnt : lookup "type" fields = none) :
    (toDict (Node.mk kind fields it ot md [] [])).bind fromDict
      = construct kind (fields ++ [("metadata", md)]) := by
  rw [toDict_generic kind fields it ot md hk]
  exact fromDict_toDict_generic kind fields md hw hk hnt _

/-- **Exact round trip**: a node built by the constructor of a class that stores its parameters
unchanged (Affine, Linear, Scale, Threshold, Delay, I, IF, LI, LIF, SumPool2d, AvgPool2d, Conv1d;
derived types not passed explicitly) comes back from `from_dict(to_dict(n))` as exactly the same
node — same fields, same value types, same derived types, same metadata. -/
theorem roundtrip_exact (kind : String) (kw : List (String × Val)) (n : Node) (hk : kind ∈ simpleKinds)
    (h : construct kind kw = .ok n)
    (hnot : lookup "input_type" kw = none ∧ lookup "output_type" kw = none) :
    (toDict n).bind fromDict = .ok n :=
  (dictExact_simple kind kw n hk h hnot).roundtrip

/-- … and the same for **Conv2d**, whose constructor normalises integer stride / padding /
dilation to pairs: on the stored (paired) values it is the identity. -/
theorem roundtrip_exact_conv2d (kw : List (String × Val)) (n : Node) (h : construct "Conv2d" kw = .ok n) :
    (toDict n).bind fromDict = .ok n :=
  (dictExact_conv2d kw n h).roundtrip

/-- … and for **Input / Output** nodes (their dictionary form stores the bare shape under `shape`
and `from_dict` re-wraps it): any Input whose types are the single-port dictionaries of one shape
value — what the constructor produces for an ndarray, list, tuple or `None` argument — with any
metadata, comes back as exactly the same node. -/
theorem roundtrip_exact_input (s md : Val) :
    (toDict (Node.mk "Input" [] (typeDict "input" s) (typeDict "output" s) md [] [])).bind fromDict
      = .ok (Node.mk "Input" [] (typeDict "input" s) (typeDict "output" s) md [] []) :=
  (dictExact_input s md).roundtrip

theorem roundtrip_exact_output (s md : Val) :
    (toDict (Node.mk "Output" [] (typeDict "input" s) (typeDict "output" s) md [] [])).bind fromDict
      = .ok (Node.mk "Output" [] (typeDict "input" s) (typeDict "output" s) md [] []) :=
  (dictExact_output s md).roundtrip

/-- … and for **Flatten** (the dictionary stores the bare input shape under `input_type`;
`from_dict` re-wraps it and the constructor recomputes the output type): a constructor-built
Flatten whose input type is a single-port dictionary — defined or `None` — comes back as exactly
the same node, at any nesting fuel. -/
theorem roundtrip_exact_flatten (kw : List (String × Val)) (n : Node) (h : construct "Flatten" kw = .ok n)
    (s : Val) (hs : n.inputType = typeDict "input" s) : DictExact n :=
  dictExact_flatten kw n h s hs

/-- **Exact round trip of whole flat graphs**: a graph (any edge list, any metadata, unique node
names) whose children each round-trip exactly — constructor-built nodes of the 12 parameter-storing
classes and Conv2d (`dictExact_simple`, `dictExact_conv2d`), Flatten (`dictExact_flatten`), Inputs and
Outputs (`dictExact_input`, `dictExact_output`): 16 of the 17 leaf classes — comes back from
`NIRGraph.from_dict(g.to_dict())` as exactly the same graph: same children in the same order, same edges, same metadata,
same mirrored interface. -/
theorem graph_roundtrip_exact (children : List (String × Node)) (edges : List Edge) (md : Val)
    (hkeys : (children.map Prod.fst).Nodup) (h : ∀ kn ∈ children, DictExact kn.2) :
    (toDict (mkGraph children edges md)).bind fromDict = .ok (mkGraph children edges md) :=
  graph_dict_exact children edges md hkeys h

/-- the LIF node of the two graphs below round-trips exactly, being what the constructor builds from its four parameters -/
theorem exLif_exact : DictExact (Node.mk "LIF" [("tau", .arr DType.float64 [2] []), ("r", .arr DType.float64 [2] []),
    ("v_leak", .arr DType.float64 [2] []), ("v_threshold", .arr DType.float64 [2] [])]
    (typeDict "input" (Val.ofInts [2])) (typeDict "output" (Val.ofInts [2])) (.dict []) [] []) :=
  dictExact_simple "LIF" [("tau", .arr DType.float64 [2] []), ("r", .arr DType.float64 [2] []),
    ("v_leak", .arr DType.float64 [2] []), ("v_threshold", .arr DType.float64 [2] [])] _ (by decide) (by rfl) ⟨rfl, rfl⟩

/-- Non-vacuity: Input → LIF (constructor-built, self-loop) → Output with graph metadata. -/
example :
    let lif := Node.mk "LIF" [("tau", .arr DType.float64 [2] []), ("r", .arr DType.float64 [2] []),
        ("v_leak", .arr DType.float64 [2] []), ("v_threshold", .arr DType.float64 [2] [])]
        (typeDict "input" (Val.ofInts [2])) (typeDict "output" (Val.ofInts [2])) (.dict []) [] []
    let g := mkGraph [("in", Node.mk "Input" [] (typeDict "input" (Val.ofInts [2])) (typeDict "output" (Val.ofInts [2])) (.dict []) [] []),
        ("lif", lif),
        ("out", Node.mk "Output" [] (typeDict "input" (Val.ofInts [2])) (typeDict "output" (Val.ofInts [2])) (.dict [("k", .int 1)]) [] [])]
      [("in", "lif"), ("lif", "lif"), ("lif", "out")] (.dict [("note", .str "x")])
    (toDict g).bind fromDict = .ok g := by
  intro lif g
  exact graph_roundtrip_exact _ _ _ (by decide) (by simpa using ⟨dictExact_input _ _, exLif_exact, dictExact_output _ _⟩)

/-- Non-vacuity: a Conv1d with an erased (`None`) input shape — which the file form cannot
carry — goes through the dictionary form and the constructor sees `None` again. -/
example : ∃ d, toDict (Node.mk "Conv1d" [("input_shape", .none), ("weight", .arr DType.float64 [2, 1, 3] [])]
    (typeDict "input" .none) (typeDict "output" .none) (.dict []) [] []) = .ok (.dict d) ∧
    lookup "input_shape" d = some .none := ⟨_, rfl, rfl⟩

/-! ## the exact dictionary round trip at every nesting depth

`Lemmas.ExactTree`: a leaf that round-trips exactly (`DictExact`: the 16 leaf classes of `roundtrip_exact*`), or a graph
with unique child names all of whose children are `ExactTree`s — graphs nested to any depth, any edge lists, any
metadata at any level. -/

/-- **Graphs nested to any depth**: `NIRGraph.from_dict(g.to_dict())` is exactly `g` — every sub-graph with the same
children in the same order, the same edges, the same metadata and the same mirrored interface, every leaf exactly itself. -/
theorem nested_roundtrip_exact (n : Node) (h : ExactTree n) : (toDict n).bind fromDict = .ok n :=
  nested_dict_exact h

/-- one more level: a graph of `ExactTree`s is an `ExactTree` (so the statement composes) -/
theorem nested_graph (children : List (String × Node)) (edges : List Edge) (md : Val)
    (hkeys : (children.map Prod.fst).Nodup) (h : ∀ kn ∈ children, ExactTree kn.2) :
    (toDict (mkGraph children edges md)).bind fromDict = .ok (mkGraph children edges md) :=
  nested_dict_exact (ExactTree.graph children edges md hkeys h)

/-- Non-vacuity: a graph holding a sub-graph that itself holds a sub-graph (three levels; Input → LIF → Output
innermost, metadata at two levels, an edge addressing a port of the sub-graph by its dotted name). -/
example :
    let lif := Node.mk "LIF" [("tau", .arr DType.float64 [2] []), ("r", .arr DType.float64 [2] []),
        ("v_leak", .arr DType.float64 [2] []), ("v_threshold", .arr DType.float64 [2] [])]
        (typeDict "input" (Val.ofInts [2])) (typeDict "output" (Val.ofInts [2])) (.dict []) [] []
    let inn := Node.mk "Input" [] (typeDict "input" (Val.ofInts [2])) (typeDict "output" (Val.ofInts [2])) (.dict []) [] []
    let out := Node.mk "Output" [] (typeDict "input" (Val.ofInts [2])) (typeDict "output" (Val.ofInts [2])) (.dict [("k", .int 1)]) [] []
    let g0 := mkGraph [("in", inn), ("lif", lif), ("out", out)] [("in", "lif"), ("lif", "lif"), ("lif", "out")] (.dict [("note", .str "x")])
    let g1 := mkGraph [("core", g0), ("post", lif)] [("core.out", "post"), ("core", "post")] (.dict [])
    let g2 := mkGraph [("a", inn), ("block", g1)] [("a", "block.core.in")] (.dict [("level", .int 2)])
    (toDict g2).bind fromDict = .ok g2 := by
  intro lif inn out g0 g1 g2
  have hlif : ExactTree lif := ExactTree.leaf _ exLif_exact
  have hin : ExactTree inn := ExactTree.leaf _ (dictExact_input _ _)
  have hout : ExactTree out := ExactTree.leaf _ (dictExact_output _ _)
  have h0 : ExactTree g0 := ExactTree.graph _ _ _ (by decide) (by simpa using ⟨hin, hlif, hout⟩)
  have h1 : ExactTree g1 := ExactTree.graph _ _ _ (by decide) (by simpa using ⟨h0, hlif⟩)
  exact nested_graph _ _ _ (by decide) (by simpa using ⟨hin, h1⟩)

end NirVerif.C13
