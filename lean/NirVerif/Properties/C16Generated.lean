import NirVerif.Properties.C16
import NirVerif.Generated.ObserverEffects
import NirVerif.Generated.Fields

/-! # C16 — metadata of one node cannot reach another through library state (translator item T16)

In the model metadata is a value held by one node.  For the real objects "the metadata of a node is its own" additionally
needs that no dictionary is shared between nodes by the library itself: no mutable default argument or memoised table that
hands the same `{}` to every node read without metadata, no cache of parsed files.  T16 lists every such construct under
`nir/`.  That the default `{}` the generated field table (T1) gives `metadata` is a fresh dictionary per constructed node
rests on `dataclasses` refusing a `dict` as a plain default: the table does not tell `default` from `default_factory`. -/
namespace NirVerif.C16
open NirVerif.Generated

/-- nothing under `nir/` keeps state between calls through which one node's metadata could reach another node or a later read -/
theorem no_shared_metadata_generated : ObserverEffects.sharedState = [] := by decide

end NirVerif.C16
