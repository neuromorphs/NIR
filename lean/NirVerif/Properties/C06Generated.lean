import NirVerif.Properties.C06
import NirVerif.Generated.ConvCallSites

/-! # C06 — who calls the shape formula with what (translator item T21)

`C06.lean` is about the formula; the theorem here states its call sites as read off the source on every run: every call
of `calculate_conv_output` in `conv.py` and in the active `_forward_type_inference`, with keyword arguments resolved against
the definition's parameter list.  Each binds input extent, padding, dilation, kernel, stride to the parameters of those
names (pooling: `1` for the dilation, the spatial part of the *predecessor's* output as extent) and takes the channel entry
of the declared output from the weight's axis 0 (convolution) or from the node's own input (pooling).  A call site that
swaps two operands, or a new call site, changes the regenerated table.  No theorem relates the table to the model's
`postInit` / `stepNode`: that the model passes the same operands rests on the correspondence suites. -/
namespace NirVerif.C06
open NirVerif

theorem call_sites_generated :
    Generated.convOutputParams = ["input_shape", "padding", "dilation", "kernel_size", "stride"] ∧
    Generated.convCallSites =
      [("Conv1d.__post_init__", ["node.input_shape", "node.padding", "node.dilation", "node.weight.shape[2]", "node.stride"],
          "node.weight.shape[0]"),
       ("Conv2d.__post_init__", ["node.input_shape", "node.padding", "node.dilation", "node.weight.shape[2:]", "node.stride"],
          "node.weight.shape[0]"),
       ("infer:Conv1d|Conv2d", ["node.input_shape", "node.padding", "node.dilation", "node.weight.shape[2:]", "node.stride"],
          "node.weight.shape[0]"),
       ("infer:SumPool2d", ["pre.output_type['output'][1:]", "node.padding", "1", "node.kernel_size", "node.stride"],
          "node.input_type['input'][0]"),
       ("infer:AvgPool2d", ["pre.output_type['output'][1:]", "node.padding", "1", "node.kernel_size", "node.stride"],
          "node.input_type['input'][0]")] := by
  decide +kernel

end NirVerif.C06
