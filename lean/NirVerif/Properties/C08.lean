import NirVerif.Lemmas.Restore
import NirVerif.Lemmas.Inference
import NirVerif.Properties.C09
import NirVerif.Properties.C05

/-! # C08 — type inference reconstructs exactly the erased shape annotations

About `Model.inferTypes` / `Model.checkTypes`.  `τ` is the typing of the fully annotated
graph: it assigns every node its (input shape, output shape).  `LocalTyping g τ` says that
`τ` is consistent *edge by edge* with the (partly erased) graph `g`; the theorem lifts this
to the whole run — for every topology, edge order, fan-in/out, cycle and parallel edge. -/
namespace NirVerif.C08
open NirVerif NirVerif.Py NirVerif.Model NirVerif.Lemmas

/-- the node carries exactly the shapes `t` (container-insensitively, as `np.array_equal` sees them) -/
def HasTypes (n : Node) (t : List Int × List Int) : Prop :=
  Spec.portShape n.inputType = some t.1 ∧ Spec.portShape n.outputType = some t.2

/-- `τ` is locally consistent with the partly erased graph `g`, for a node-typing predicate
`H` (`HasTypes`, or the key-aware `HasTypesK`). -/
structure LocalTypingG (H : Node → List Int × List Int → Prop) (g : Node)
    (τ : String → List Int × List Int) : Prop where
  /-- Input nodes carry their (never erased) shapes -/
  sources : ∀ k n, lookup k g.children = some n → n.isKind "Input" = true → H n (τ k)
  /-- the annotated graph is type-consistent along every edge -/
  consistent : ∀ e ∈ g.edges, (τ e.1).2 = (τ e.2).1
  /-- one loop body, run on a predecessor that already carries `τ` and on a successor that is
  either still as erased or already carries `τ`, succeeds and gives the successor `τ` -/
  step : ∀ pre post preN postN post0, (pre, post) ∈ g.edges → H preN (τ pre) →
    lookup post g.children = some post0 → postN.kind = post0.kind →
    (postN = post0 ∨ H postN (τ post)) →
    (stepNode preN postN).2 = none ∧ H (stepNode preN postN).1 (τ post)

abbrev LocalTyping := LocalTypingG HasTypes

theorem singlePort_of_hasTypes {n : Node} {t : List Int × List Int} (h : HasTypes n t)
    (hk : n.isKind "NIRGraph" = false) : SinglePort n :=
  ⟨hk, portVal_of_portShape h.1, portVal_of_portShape h.2⟩

/-- `restore` for any node-typing predicate `H` that implies `HasTypes`. -/
theorem restoreG (H : Node → List Int × List Int → Prop) (hH : ∀ n t, H n t → HasTypes n t)
    (g : Node) (τ : String → List Int × List Int)
    (hkeys : (g.children.map Prod.fst).Nodup) (hflat : FlatEdges g)
    (hleaf : ∀ k n, lookup k g.children = some n → n.isKind "NIRGraph" = false)
    (hin : (graphInputs g).isEmpty = false)
    (hall : ∀ k n, lookup k g.children = some n →
      n.isKind "Input" = true ∨ Reach g.edges ((graphInputs g).map Prod.fst) k)
    (ht : LocalTypingG H g τ) :
    (inferTypes g).2 = none ∧
    (∀ k n0, lookup k g.children = some n0 →
      ∃ n, lookup k (inferTypes g).1.children = some n ∧ H n (τ k)) ∧
    checkTypes (inferTypes g).1 = .ok true := by
  -- a processed node carries `τ`, and still has the kind of the node of `g` it comes from
  let Good : String → Node → Prop := fun k n =>
    H n (τ k) ∧ ∃ n0, lookup k g.children = some n0 ∧ n.kind = n0.kind
  have hkindGood : ∀ k n, Good k n → n.isKind "NIRGraph" = false := fun k n ⟨_, n0, hn0, hk0⟩ => by
    simpa [Node.isKind, hk0] using hleaf k n0 hn0
  obtain ⟨hsucc, hfin⟩ := forwardInference_total g hflat Good
    (fun k hk n hn => ⟨ht.sources k n hn (graphInputs_lookup hkeys ((mem_initialSeen _ _ _).mp hk).1 hn), n, hn, rfl⟩)
    (fun pre post preN postN hmem hpre hpost => by
      obtain ⟨_, pb, _, hpb, _, _⟩ := hflat (pre, post) hmem
      have hcase : postN.kind = pb.kind ∧ (postN = pb ∨ H postN (τ post)) := by
        rcases hpost with h | ⟨hty, n0, hn0, hk0⟩
        · cases hpb.symm.trans h; exact ⟨rfl, Or.inl rfl⟩
        · cases hpb.symm.trans hn0; exact ⟨hk0, Or.inr hty⟩
      have := ht.step pre post preN postN pb hmem hpre.1 hpb hcase.1 hcase.2
      exact ⟨this.1, this.2, pb, hpb, (stepNode_frame preN postN).1.trans hcase.1⟩)
    hkindGood
  -- every node ends up carrying τ: it was processed, or it is an Input that no edge leaves
  have hnodes : ∀ k n0, lookup k g.children = some n0 → ∃ n, lookup k (forwardInference g).1 = some n ∧ Good k n := by
    intro k n0 h0
    by_cases hs : k ∈ (forwardInference g).2.1
    · exact hfin.get hs
    · exact ⟨n0, (hfin.untouched k hs).trans h0,
        ht.sources k n0 h0 ((hall k n0 h0).resolve_right fun hr => hs (hfin.reach_seen hr)), n0, h0, rfl⟩
  rw [inferTypes_of_inputs hin]
  refine ⟨hsucc, fun k n0 h0 => (hnodes k n0 h0).imp fun n h => ⟨h.1, h.2.1⟩, ?_⟩
  -- the type check (C09): the two ends of an edge are single-port leaves that carry `τ`, which is consistent along it
  refine (C09.iff _ fun e he => ?_).mpr fun e he => ?_
  all_goals
    obtain ⟨a, b, ha, hb, _, _⟩ := hflat e he
    obtain ⟨na, hna, hga⟩ := hnodes e.1 a ha
    obtain ⟨nb, hnb, hgb⟩ := hnodes e.2 b hb
  · exact ⟨na, nb, hna, hnb, singlePort_of_hasTypes (hH _ _ hga.1) (hkindGood _ _ hga),
      singlePort_of_hasTypes (hH _ _ hgb.1) (hkindGood _ _ hgb)⟩
  · exact ⟨na, nb, _, hna, hnb, (hH _ _ hga.1).2, ht.consistent e he ▸ (hH _ _ hgb.1).1⟩

/-- **Restoration.**  For a flat graph with unique names in which every node is an Input or
reachable from one, and any typing `τ` locally consistent with it: `infer_types` succeeds,
gives *every* node exactly the types `τ` assigns (none undefined, Output nodes included), and
the resulting graph passes the type check. -/
theorem restore (g : Node) (τ : String → List Int × List Int)
    (hkeys : (g.children.map Prod.fst).Nodup) (hflat : FlatEdges g)
    (hleaf : ∀ k n, lookup k g.children = some n → n.isKind "NIRGraph" = false)
    (hin : (graphInputs g).isEmpty = false)
    (hall : ∀ k n, lookup k g.children = some n →
      n.isKind "Input" = true ∨ Reach g.edges ((graphInputs g).map Prod.fst) k)
    (ht : LocalTyping g τ) :
    (inferTypes g).2 = none ∧
    (∀ k n0, lookup k g.children = some n0 →
      ∃ n, lookup k (inferTypes g).1.children = some n ∧ HasTypes n (τ k)) ∧
    checkTypes (inferTypes g).1 = .ok true :=
  restoreG HasTypes (fun _ _ h => h) g τ hkeys hflat hleaf hin hall ht


/-! ## discharging `LocalTyping` from per-node conditions -/

/-- Local consistency from a condition `OK` on the nodes of `g`.  `hkeep`: a successor that already carries `τ` meets the
condition as the node of `g` does that it comes from. -/
theorem LocalTypingG.of_nodes {H OK : Node → List Int × List Int → Prop} {g : Node} {τ : String → List Int × List Int}
    (hstep : ∀ {pre post : Node} {tp t : List Int × List Int}, H pre tp → tp.2 = t.1 → OK post t →
      (stepNode pre post).2 = none ∧ H (stepNode pre post).1 t)
    (hkeep : ∀ {n n0 : Node} {t : List Int × List Int}, OK n0 t → n.kind = n0.kind → H n t → OK n t)
    (hnodes : ∀ k n, lookup k g.children = some n → OK n (τ k))
    (hsrc : ∀ k n, lookup k g.children = some n → n.isKind "Input" = true → H n (τ k))
    (hcons : ∀ e ∈ g.edges, (τ e.1).2 = (τ e.2).1) : LocalTypingG H g τ where
  sources := hsrc
  consistent := hcons
  step := fun pre post _ _ post0 hmem hpre hpost0 hkind hcase =>
    hstep hpre (hcons (pre, post) hmem)
      (hcase.elim (fun h => h ▸ hnodes post post0 hpost0) (hkeep (hnodes post post0 hpost0) hkind))

/-- What is asked of each node of the partly erased graph: a single input port (possibly
undefined or wrong), and either it is an Input carrying `t`, or an Output (whose own shape
may be erased or wrong) with `t.1 = t.2`, or any other primitive whose output type is the
annotated `t.2`. -/
def NodeOK (n : Node) (t : List Int × List Int) : Prop :=
  (∃ ki vi, n.inputType = .dict [(ki, vi)] ∧ PortVal vi) ∧
  ((n.kind = "Input" ∧ HasTypes n t) ∨ (n.kind = "Output" ∧ t.1 = t.2) ∨
   (n.kind ≠ "Output" ∧ Spec.portShape n.outputType = some t.2))

theorem NodeOK.output_eq {n : Node} {t : List Int × List Int} (h : NodeOK n t) (hk : n.kind = "Output") : t.1 = t.2 := by
  simpa only [hk, String.reduceEq, false_and, false_or, true_and, ne_eq, not_true_eq_false, or_false] using h.2

theorem nodeOK_of_typed {n : Node} {t : List Int × List Int} (hk : n.kind ≠ "Output") (h : HasTypes n t) : NodeOK n t :=
  ⟨portVal_of_portShape h.1, Or.inr (Or.inr ⟨hk, h.2⟩)⟩

theorem NodeOK.of_typed {n n0 : Node} {t : List Int × List Int} (h0 : NodeOK n0 t) (hkind : n.kind = n0.kind)
    (h : HasTypes n t) : NodeOK n t := by
  by_cases hko : n.kind = "Output"
  · exact ⟨portVal_of_portShape h.1, Or.inr (Or.inl ⟨hko, h0.output_eq (hkind ▸ hko)⟩)⟩
  · exact nodeOK_of_typed hko h

theorem stepNode_of_nodeOK {pre post : Node} {tp t : List Int × List Int} (hpre : HasTypes pre tp) (hc : tp.2 = t.1)
    (h : NodeOK post t) : (stepNode pre post).2 = none ∧ HasTypes (stepNode pre post).1 t := by
  obtain ⟨ko, vo, hpo, hso⟩ := portShape_dict hpre.2
  rw [hc] at hso
  obtain ⟨ki, vi, hpi, hvi⟩ := h.1
  by_cases hko : post.kind = "Output"
  · obtain ⟨h1, h2, h3⟩ := stepNode_output hko hpo hso hpi hvi
    exact ⟨h1, h2, h.output_eq hko ▸ h3⟩
  · have hout : Spec.portShape post.outputType = some t.2 := by
      rcases h.2 with ⟨-, hty⟩ | ⟨hk, -⟩ | ⟨-, hout⟩
      · exact hty.2
      · exact absurd hk hko
      · exact hout
    obtain ⟨h1, h2, h3⟩ := stepNode_annotated pre post ko ki vo vi _ hko (defined_of_portShape hout) hpo hso hpi hvi
    exact ⟨h1, h2, h3 ▸ hout⟩

/-- Erasing / corrupting any subset of **Output** shapes (and any subset of input-side
annotations) of a type-consistent graph leaves `τ` locally consistent. -/
theorem localTyping_of_nodes (g : Node) (τ : String → List Int × List Int)
    (hnodes : ∀ k n, lookup k g.children = some n → NodeOK n (τ k))
    (hsrc : ∀ k n, lookup k g.children = some n → n.isKind "Input" = true → HasTypes n (τ k))
    (hcons : ∀ e ∈ g.edges, (τ e.1).2 = (τ e.2).1) : LocalTyping g τ :=
  .of_nodes stepNode_of_nodeOK NodeOK.of_typed hnodes hsrc hcons


/-! ## key-aware discharge: erased **Flatten, Conv1d, Conv2d and pooling** nodes as well -/

theorem hasTypes_of_K (n : Node) (t : List Int × List Int) (h : HasTypesK n t) : HasTypes n t := by
  obtain ⟨⟨vi, hi, hvi, _⟩, ⟨vo, ho, hvo, _⟩⟩ := h
  exact ⟨by rw [hi]; exact hvi, by rw [ho]; exact hvo⟩

/-- What is asked of each node of the partly erased graph, with the standard port names: an
`input` port (possibly undefined or wrong), and one of:
* an Input carrying `t`;
* an Output (own shape erased or wrong) with `t.1 = t.2`;
* a Flatten whose output type was erased, a Conv2d / Conv1d whose types were erased (`input_shape=None`) or a
  pooling node (its types are never serialised), `t.2` being what the loop body computes from `t.1`:
  `calc_flatten_output`, `[C_out, *calculate_conv_output(…)]`, `[c, *calculate_conv_output(…)]` with dilation 1;
* any other primitive whose output type is the annotated `t.2`. -/
def NodeOKK (n : Node) (t : List Int × List Int) : Prop :=
  (∃ vi, n.inputType = typeDict "input" vi ∧ PortVal vi ∧ WFShape vi) ∧
  ((n.kind = "Input" ∧ HasTypesK n t) ∨ (n.kind = "Output" ∧ t.1 = t.2) ∨
   (n.kind = "Flatten" ∧ n.outputType = typeDict "output" .none ∧
      ∃ sd ed, (n.field? "start_dim").bind Val.asInt? = some sd ∧ (n.field? "end_dim").bind Val.asInt? = some ed ∧
        t.1 ≠ [] ∧ t.2 = calcFlattenOutput t.1 sd ed ∧ Py.prod t.1 = Py.prod t.2 ∧ FitsI64 t.2) ∨
   (n.kind = "Conv2d" ∧ n.outputType = typeDict "output" .none ∧
      ∃ w wsh c spatial outs, n.field? "weight" = some w ∧ getShape w = .ok wsh ∧ 1 ≤ wsh.length ∧
        t.1 = c :: spatial ∧
        calculateConvOutput (.tuple (spatial.map Val.int)) ((n.field? "padding").getD .none)
          ((n.field? "dilation").getD .none) (kernelOf wsh) ((n.field? "stride").getD .none) = .ok outs ∧
        t.2 = Int.ofNat (wsh.getD 0 0) :: outs ∧ FitsI64 t.2) ∨
   (n.kind = "Conv1d" ∧ n.outputType = typeDict "output" .none ∧
      ∃ w wsh c n1 outs, n.field? "weight" = some w ∧ getShape w = .ok wsh ∧ 1 ≤ wsh.length ∧
        t.1 = [c, n1] ∧
        calculateConvOutput (.int n1) ((n.field? "padding").getD .none)
          ((n.field? "dilation").getD .none) (kernelOf wsh) ((n.field? "stride").getD .none) = .ok outs ∧
        t.2 = Int.ofNat (wsh.getD 0 0) :: outs ∧ FitsI64 t.2) ∨
   ((n.kind = "SumPool2d" ∨ n.kind = "AvgPool2d") ∧ n.outputType = typeDict "output" .none ∧
      ∃ c spatial outs, t.1 = c :: spatial ∧
        calculateConvOutput (.tuple (spatial.map Val.int)) ((n.field? "padding").getD .none) (.int 1)
          ((n.field? "kernel_size").getD .none) ((n.field? "stride").getD .none) = .ok outs ∧
        outs ≠ [] ∧ t.2 = c :: outs ∧ FitsI64 t.2) ∨
   (n.kind ≠ "Output" ∧ ∃ w, n.outputType = typeDict "output" w ∧ Spec.shapeOfVal w = some t.2 ∧ WFShape w))

theorem nodeOKK_of_typed {n : Node} {t : List Int × List Int} (hk : n.kind ≠ "Output") (h : HasTypesK n t) :
    NodeOKK n t := by
  obtain ⟨⟨vi, hi, hvi, hwi⟩, ho⟩ := h
  refine ⟨⟨vi, hi, portVal_of_shape hvi, hwi⟩, ?_⟩
  iterate 6 right
  exact ⟨hk, ho⟩

theorem NodeOKK.output_eq {n : Node} {t : List Int × List Int} (h : NodeOKK n t) (hk : n.kind = "Output") : t.1 = t.2 := by
  simpa only [hk, String.reduceEq, false_and, false_or, true_and, or_self, ne_eq, not_true_eq_false, or_false] using h.2

theorem NodeOKK.of_typed {n n0 : Node} {t : List Int × List Int} (h0 : NodeOKK n0 t) (hkind : n.kind = n0.kind)
    (h : HasTypesK n t) : NodeOKK n t := by
  by_cases hko : n.kind = "Output"
  · obtain ⟨vi, hi, hvi, hwi⟩ := h.1
    exact ⟨⟨vi, hi, portVal_of_shape hvi, hwi⟩, Or.inr (Or.inl ⟨hko, h0.output_eq (hkind ▸ hko)⟩)⟩
  · exact nodeOKK_of_typed hko h

theorem stepNode_of_nodeOKK {pre post : Node} {tp t : List Int × List Int} (hpre : HasTypesK pre tp) (hc : tp.2 = t.1)
    (h : NodeOKK post t) : (stepNode pre post).2 = none ∧ HasTypesK (stepNode pre post).1 t := by
  obtain ⟨vo, hpo, hso, hwo⟩ := hpre.2
  rw [hc] at hso
  obtain ⟨⟨vi, hpi, hvi, hwi⟩, halt⟩ := h
  obtain ⟨t1, t2⟩ := t
  simp only at hso halt
  rcases halt with ⟨hk, -, w, hout, hw, hww⟩ | ⟨hk, rfl⟩ | ⟨hk, hout0, sd, ed, hsd, hed, hne, rfl, hcount, hfit⟩ |
    ⟨hk, hout0, w, wsh, c, spatial, outs, hw, hwsh, hrank, rfl, hcalc, rfl, hfit⟩ |
    ⟨hk, hout0, w, wsh, c, n1, outs, hw, hwsh, hrank, rfl, hcalc, rfl, hfit⟩ |
    ⟨hk, hout0, c, spatial, outs, rfl, hcalc, hne, rfl, hfit⟩ | ⟨hk, w, hout, hw, hww⟩
  · exact stepNode_annotatedK pre post vo vi w t1 t2 (by rw [hk]; decide) hout hw hww hpo hso hpi hvi hwo hwi
  · exact stepNode_outputK pre post vo vi _ hk hpo hso hpi hvi hwo hwi
  · exact stepNode_flatten _ _ vo vi _ sd ed hk hout0 hsd hed hpo hso hne hpi hvi hwo hwi hcount hfit
  · exact stepNode_conv2d _ _ vo vi w c spatial outs wsh hk hout0 hw hwsh hrank hpo hso hpi hvi hwo hwi hcalc hfit
  · exact stepNode_conv1d hk hout0 hw hwsh hrank hpo hso hpi hvi hwo hwi hcalc hfit
  · exact stepNode_pool _ _ vo vi c spatial outs hk hout0 hpo hso hpi hvi hwo hwi hcalc hne hfit
  · exact stepNode_annotatedK pre post vo vi w t1 t2 hk hout hw hww hpo hso hpi hvi hwo hwi

/-- Erasing / corrupting any subset of Output shapes, input-side annotations, **Flatten
output types, Conv1d/Conv2d types and pooling types** of a type-consistent graph leaves `τ`
locally consistent: every kind of annotation that NIR allows to be undefined. -/
theorem localTypingK_of_nodes (g : Node) (τ : String → List Int × List Int)
    (hnodes : ∀ k n, lookup k g.children = some n → NodeOKK n (τ k))
    (hsrc : ∀ k n, lookup k g.children = some n → n.isKind "Input" = true → HasTypesK n (τ k))
    (hcons : ∀ e ∈ g.edges, (τ e.1).2 = (τ e.2).1) : LocalTypingG HasTypesK g τ :=
  .of_nodes stepNode_of_nodeOKK NodeOKK.of_typed hnodes hsrc hcons

/-- `restore` at the key-aware typing, with local consistency discharged from `NodeOKK`: Flatten, Conv and pooling
types may be erased as well. -/
theorem restore_keyed (g : Node) (τ : String → List Int × List Int)
    (hkeys : (g.children.map Prod.fst).Nodup) (hflat : FlatEdges g)
    (hleaf : ∀ k n, lookup k g.children = some n → n.isKind "NIRGraph" = false)
    (hin : (graphInputs g).isEmpty = false)
    (hall : ∀ k n, lookup k g.children = some n →
      n.isKind "Input" = true ∨ Reach g.edges ((graphInputs g).map Prod.fst) k)
    (hnodes : ∀ k n, lookup k g.children = some n → NodeOKK n (τ k))
    (hsrc : ∀ k n, lookup k g.children = some n → n.isKind "Input" = true → HasTypesK n (τ k))
    (hcons : ∀ e ∈ g.edges, (τ e.1).2 = (τ e.2).1) :
    (inferTypes g).2 = none ∧
    (∀ k n0, lookup k g.children = some n0 →
      ∃ n, lookup k (inferTypes g).1.children = some n ∧ HasTypesK n (τ k)) ∧
    checkTypes (inferTypes g).1 = .ok true :=
  restoreG HasTypesK hasTypes_of_K g τ hkeys hflat hleaf hin hall (localTypingK_of_nodes g τ hnodes hsrc hcons)

theorem localTypingM_of_nodes (g : Node) (τ : String → List Int × List Int)
    (hnodes : ∀ k n, lookup k g.children = some n → NodeOKK n (τ k))
    (hsrc : ∀ k n, lookup k g.children = some n → n.isKind "Input" = true → HasTypesK n (τ k))
    (hcons : ∀ e ∈ g.edges, (τ e.1).2 = (τ e.2).1) : LocalTypingG HasTypesM g τ :=
  .of_nodes
    (fun hpre hc h => have hK := stepNode_of_nodeOKK hpre.1 hc h; ⟨hK.1, hK.2, stepNode_mirrors _ _ hK.1⟩)
    (fun h0 hkind h => h0.of_typed hkind h.1) hnodes
    (fun k n h hk => ⟨hsrc k n h hk, fun hko => by simp [Node.isKind, hko] at hk⟩)
    hcons

/-- `restore_keyed` at `HasTypesM`: in addition, every Output node ends up with exactly the renamed copy of its
input type. -/
theorem restore_settled (g : Node) (τ : String → List Int × List Int)
    (hkeys : (g.children.map Prod.fst).Nodup) (hflat : FlatEdges g)
    (hleaf : ∀ k n, lookup k g.children = some n → n.isKind "NIRGraph" = false)
    (hin : (graphInputs g).isEmpty = false)
    (hall : ∀ k n, lookup k g.children = some n →
      n.isKind "Input" = true ∨ Reach g.edges ((graphInputs g).map Prod.fst) k)
    (hnodes : ∀ k n, lookup k g.children = some n → NodeOKK n (τ k))
    (hsrc : ∀ k n, lookup k g.children = some n → n.isKind "Input" = true → HasTypesK n (τ k))
    (hcons : ∀ e ∈ g.edges, (τ e.1).2 = (τ e.2).1) :
    (inferTypes g).2 = none ∧
    (∀ k n0, lookup k g.children = some n0 →
      ∃ n, lookup k (inferTypes g).1.children = some n ∧ HasTypesM n (τ k)) ∧
    checkTypes (inferTypes g).1 = .ok true :=
  restoreG HasTypesM (fun n t h => hasTypes_of_K n t h.1) g τ hkeys hflat hleaf hin hall
    (localTypingM_of_nodes g τ hnodes hsrc hcons)

/-! ## constructor-built nodes meet the per-node condition of `restore_keyed`

`C08.restore_keyed` (and with it `C14.commute_keyed`) asks every node of the graph to satisfy `NodeOKK n (τ k)`.  For the
parameterised primitives that condition is not an assumption about the graph but a *consequence of how nodes are built*:
whatever `postInit` returns for an `Affine` / `Linear` / element-wise / neuron class declares int64 vectors holding the
shapes the mathematics implies (C05), and a node declaring such vectors is `NodeOKK` for exactly those shapes. -/

/-- a node other than an Output that declares int64 vectors holding `si` / `so` (C05's `Declares`) meets the per-node
condition for the typing that gives it `(si, so)` -/
theorem nodeOKK_of_declares (n : Node) (si so : List Nat) (hk : n.kind ≠ "Output")
    (hi : C05.Declares n.inputType "input" si) (ho : C05.Declares n.outputType "output" so)
    (hfi : ∀ x ∈ si, x < 2 ^ 63) (hfo : ∀ x ∈ so, x < 2 ^ 63) :
    NodeOKK n (si.map Int.ofNat, so.map Int.ofNat) := by
  have hof : ∀ s : List Nat, Val.arr DType.int64 [s.length] (encodeInts DType.int64 (s.map Int.ofNat)) = Val.ofInts (s.map Int.ofNat) :=
    fun s => by simp [Val.ofInts]
  unfold C05.Declares at hi ho
  rw [hof] at hi ho
  exact nodeOKK_of_typed hk (hasTypesK_ofInts hi ho (fits_ofNat si hfi) (fits_ofNat so hfo))

/-- Affine / Linear as built: `NodeOKK` for `(batch ++ [n], batch ++ [m])` -/
theorem built_affine_linear (kind : String) (hk : kind = "Affine" ∨ kind = "Linear")
    (f : List (String × Val)) (dt : DType) (batch : List Nat) (m n : Nat) (d : Bytes)
    (hw : lookup "weight" f = some (.arr dt (batch ++ [m, n]) d))
    (hfit : ∀ x ∈ batch ++ [m, n], x < 2 ^ 63) :
    ∃ node, postInit kind f = .ok node ∧
      NodeOKK node ((batch ++ [n]).map Int.ofNat, (batch ++ [m]).map Int.ofNat) := by
  obtain ⟨node, hp, hi, ho, _⟩ := C05.affine_linear kind hk f dt batch m n d hw
  refine ⟨node, hp, nodeOKK_of_declares node _ _ ?_ hi ho ?_ ?_⟩
  · rw [postInit_kind kind f node hp]; rcases hk with rfl | rfl <;> decide
  · intro x hx; exact hfit x (by simp at hx ⊢; rcases hx with h | h <;> simp [h])
  · intro x hx; exact hfit x (by simp at hx ⊢; rcases hx with h | h <;> simp [h])

/-- Scale / Threshold / Delay / I as built: `NodeOKK` for `(sh, sh)` -/
theorem built_elementwise (kind field : String)
    (hk : (kind, field) ∈ [("Scale", "scale"), ("Threshold", "threshold"), ("Delay", "delay"), ("I", "r")])
    (f : List (String × Val)) (dt : DType) (sh : List Nat) (d : Bytes)
    (hp : lookup field f = some (.arr dt sh d)) (hfit : ∀ x ∈ sh, x < 2 ^ 63) :
    ∃ node, postInit kind f = .ok node ∧ NodeOKK node (sh.map Int.ofNat, sh.map Int.ofNat) := by
  obtain ⟨node, hpi, hi, ho, _⟩ := C05.elementwise1 kind field hk f dt sh d hp
  refine ⟨node, hpi, nodeOKK_of_declares node sh sh ?_ hi ho hfit hfit⟩
  rw [postInit_kind kind f node hpi]
  rintro rfl
  simp at hk

/-- IF / LI / LIF as built: `NodeOKK` for `(sh, sh)` -/
theorem built_neuron (kind : String) (fields : List String)
    (hk : (kind, fields) ∈ [("IF", ["r", "v_threshold"]), ("LI", ["tau", "r", "v_leak"]),
                            ("LIF", ["tau", "r", "v_leak", "v_threshold"])])
    (f : List (String × Val)) (sh : List Nat)
    (hp : ∀ fld ∈ fields, ∃ dt d, lookup fld f = some (.arr dt sh d)) (hfit : ∀ x ∈ sh, x < 2 ^ 63) :
    ∃ node, postInit kind f = .ok node ∧ NodeOKK node (sh.map Int.ofNat, sh.map Int.ofNat) := by
  obtain ⟨node, hpi, hi, ho⟩ := C05.neuron kind fields hk f sh hp
  refine ⟨node, hpi, nodeOKK_of_declares node sh sh ?_ hi ho hfit hfit⟩
  rw [postInit_kind kind f node hpi]
  rintro rfl
  simp at hk

/-! ## non-vacuity: a concrete erased graph meets every hypothesis of `restore` -/

def exIn : Node := Node.mk "Input" [] (typeDict "input" (Val.ofInts [2])) (typeDict "output" (Val.ofInts [2])) (.dict []) [] []
def exScale : Node := Node.mk "Scale" [] (typeDict "input" (Val.ofInts [2])) (typeDict "output" (Val.ofInts [2])) (.dict []) [] []
def exOutErased : Node := Node.mk "Output" [] (typeDict "input" .none) (typeDict "output" .none) (.dict []) [] []
def exOutWrong : Node := Node.mk "Output" [] (typeDict "input" (Val.ofInts [9, 9])) (typeDict "output" (Val.ofInts [9, 9])) (.dict []) [] []
/-- Input -> Scale (recurrent self-loop, parallel edges) -> one erased and one wrong Output -/
def exGraph : Node := mkGraph [("in", exIn), ("s", exScale), ("o1", exOutErased), ("o2", exOutWrong)]
  [("s", "o2"), ("in", "s"), ("s", "s"), ("s", "o1"), ("in", "s")]
def exTau : String → List Int × List Int := fun _ => ([2], [2])

theorem ex_shape : Spec.shapeOfVal (Val.ofInts [2]) = some [2] := by decide +kernel
theorem ex_shape9 : (Spec.shapeOfVal (Val.ofInts [9, 9])).isSome = true := by decide +kernel

theorem ex_lookup (k : String) (n : Node) (h : lookup k exGraph.children = some n) :
    (k = "in" ∧ n = exIn) ∨ (k = "s" ∧ n = exScale) ∨ (k = "o1" ∧ n = exOutErased) ∨ (k = "o2" ∧ n = exOutWrong) := by
  simpa [exGraph, mkGraph] using mem_of_lookup k n _ h

example : (inferTypes exGraph).2 = none ∧ checkTypes (inferTypes exGraph).1 = .ok true := by
  have hIn : HasTypes exIn ([2], [2]) := hasTypes_of_K _ _ (hasTypesK_ofInts rfl rfl (by decide) (by decide))
  have hlt : LocalTyping exGraph exTau := by
    apply localTyping_of_nodes
    · intro k n h
      rcases ex_lookup k n h with ⟨_, rfl⟩ | ⟨_, rfl⟩ | ⟨_, rfl⟩ | ⟨_, rfl⟩
      · exact nodeOK_of_typed (by decide) hIn
      · exact nodeOK_of_typed (by decide) hIn
      · exact ⟨⟨"input", _, rfl, Or.inl rfl⟩, Or.inr (Or.inl ⟨rfl, rfl⟩)⟩
      · exact ⟨⟨"input", _, rfl, Or.inr ex_shape9⟩, Or.inr (Or.inl ⟨rfl, rfl⟩)⟩
    · intro k n h hk
      rcases ex_lookup k n h with ⟨_, rfl⟩ | ⟨_, rfl⟩ | ⟨_, rfl⟩ | ⟨_, rfl⟩
      · exact hIn
      all_goals cases hk
    · decide
  have := restore exGraph exTau (by decide) (flatEdges_of_keys (by decide) (by decide)) (forall_lookup (by decide))
    (by decide) (reach_of_order ["s", "o1", "o2"] (by decide) (by decide)) hlt
  exact ⟨this.1, this.2.2⟩

/-! ### non-vacuity of `restore_keyed`: Input[2,3] → Flatten (output erased) → Output (erased) -/

def fxIn : Node := Node.mk "Input" [] (typeDict "input" (Val.ofInts [2, 3])) (typeDict "output" (Val.ofInts [2, 3])) (.dict []) [] []
def fxFlat : Node := Node.mk "Flatten" [("start_dim", .int 0), ("end_dim", .int (-1))]
  (typeDict "input" .none) (typeDict "output" .none) (.dict []) [] []
def fxGraph : Node := mkGraph [("in", fxIn), ("f", fxFlat), ("o", exOutErased)] [("f", "o"), ("in", "f")]
def fxTau : String → List Int × List Int := fun k =>
  if k = "in" then ([2, 3], [2, 3]) else if k = "f" then ([2, 3], [6]) else ([6], [6])

theorem fx_shape : Spec.shapeOfVal (Val.ofInts [2, 3]) = some [2, 3] := by decide +kernel

theorem fx_lookup (k : String) (n : Node) (h : lookup k fxGraph.children = some n) :
    (k = "in" ∧ n = fxIn) ∨ (k = "f" ∧ n = fxFlat) ∨ (k = "o" ∧ n = exOutErased) := by
  simpa [fxGraph, mkGraph] using mem_of_lookup k n _ h

example : (inferTypes fxGraph).2 = none ∧ checkTypes (inferTypes fxGraph).1 = .ok true ∧
    ∃ n, lookup "f" (inferTypes fxGraph).1.children = some n ∧ Spec.portShape n.outputType = some [6] := by
  have hInK : HasTypesK fxIn ([2, 3], [2, 3]) := hasTypesK_ofInts rfl rfl (by decide) (by decide)
  have := restore_keyed fxGraph fxTau (by decide) (flatEdges_of_keys (by decide) (by decide)) (forall_lookup (by decide))
    (by decide) (reach_of_order ["f", "o"] (by decide) (by decide))
    (by
      intro k n h
      rcases fx_lookup k n h with ⟨rfl, rfl⟩ | ⟨rfl, rfl⟩ | ⟨rfl, rfl⟩
      · exact nodeOKK_of_typed (by decide) hInK
      · exact ⟨⟨_, rfl, Or.inl rfl, trivial⟩, Or.inr (Or.inr (Or.inl ⟨rfl, rfl, 0, -1, rfl, rfl,
          by decide, by decide +kernel, by decide +kernel, by decide⟩))⟩
      · exact ⟨⟨_, rfl, Or.inl rfl, trivial⟩, Or.inr (Or.inl ⟨rfl, rfl⟩)⟩)
    (by
      intro k n h hk
      rcases fx_lookup k n h with ⟨rfl, rfl⟩ | ⟨rfl, rfl⟩ | ⟨rfl, rfl⟩
      · exact hInK
      all_goals cases hk)
    (by decide)
  exact ⟨this.1, this.2.2, (this.2.1 "f" fxFlat rfl).imp fun n h => ⟨h.1, (hasTypes_of_K _ _ h.2).2⟩⟩

/-! ### non-vacuity with an erased Conv2d and a pooling node:
Input[1,5,5] → Conv2d(3×3, erased) → SumPool2d(3, types never stored) → Output(erased) -/

def cxIn : Node := Node.mk "Input" [] (typeDict "input" (Val.ofInts [1, 5, 5])) (typeDict "output" (Val.ofInts [1, 5, 5])) (.dict []) [] []
def cxPair (a : Int) : Val := .tuple [.int a, .int a]
def cxConv : Node := Node.mk "Conv2d"
  [("input_shape", .none), ("weight", .arr DType.float64 [2, 1, 3, 3] []), ("stride", cxPair 1), ("padding", cxPair 0),
   ("dilation", cxPair 1), ("groups", .int 1), ("bias", .arr DType.float64 [2] [])]
  (typeDict "input" .none) (typeDict "output" .none) (.dict []) [] []
def cxPool : Node := Node.mk "SumPool2d" [("kernel_size", .int 3), ("stride", .int 1), ("padding", .int 0)]
  (typeDict "input" .none) (typeDict "output" .none) (.dict []) [] []
def cxGraph : Node := mkGraph [("in", cxIn), ("c", cxConv), ("p", cxPool), ("o", exOutErased)]
  [("in", "c"), ("p", "o"), ("c", "p")]
def cxTau : String → List Int × List Int := fun k =>
  if k = "in" then ([1, 5, 5], [1, 5, 5]) else if k = "c" then ([1, 5, 5], [2, 3, 3])
  else if k = "p" then ([2, 3, 3], [2, 1, 1]) else ([2, 1, 1], [2, 1, 1])

theorem cx_shape : Spec.shapeOfVal (Val.ofInts [1, 5, 5]) = some [1, 5, 5] := by decide +kernel
theorem cx_calc : calculateConvOutput (.tuple ([5, 5].map Val.int)) (cxPair 0) (cxPair 1) (kernelOf [2, 1, 3, 3]) (cxPair 1)
    = .ok [3, 3] := by decide +kernel
theorem cx_pool : calculateConvOutput (.tuple ([3, 3].map Val.int)) (.int 0) (.int 1) (.int 3) (.int 1)
    = .ok [1, 1] := by decide +kernel

theorem cx_lookup (k : String) (n : Node) (h : lookup k cxGraph.children = some n) :
    (k = "in" ∧ n = cxIn) ∨ (k = "c" ∧ n = cxConv) ∨ (k = "p" ∧ n = cxPool) ∨ (k = "o" ∧ n = exOutErased) := by
  simpa [cxGraph, mkGraph] using mem_of_lookup k n _ h

example : (inferTypes cxGraph).2 = none ∧ checkTypes (inferTypes cxGraph).1 = .ok true ∧
    (∃ n, lookup "c" (inferTypes cxGraph).1.children = some n ∧ Spec.portShape n.outputType = some [2, 3, 3]) ∧
    (∃ n, lookup "p" (inferTypes cxGraph).1.children = some n ∧ Spec.portShape n.outputType = some [2, 1, 1]) := by
  have hInK : HasTypesK cxIn ([1, 5, 5], [1, 5, 5]) := hasTypesK_ofInts rfl rfl (by decide) (by decide)
  have := restore_keyed cxGraph cxTau (by decide) (flatEdges_of_keys (by decide) (by decide)) (forall_lookup (by decide))
    (by decide) (reach_of_order ["c", "p", "o"] (by decide) (by decide))
    (by
      intro k n h
      rcases cx_lookup k n h with ⟨rfl, rfl⟩ | ⟨rfl, rfl⟩ | ⟨rfl, rfl⟩ | ⟨rfl, rfl⟩
      · exact nodeOKK_of_typed (by decide) hInK
      · exact ⟨⟨_, rfl, Or.inl rfl, trivial⟩, Or.inr (Or.inr (Or.inr (Or.inl
          ⟨rfl, rfl, _, [2, 1, 3, 3], 1, [5, 5], [3, 3], rfl, rfl, by decide, rfl, cx_calc, rfl, by decide⟩)))⟩
      · exact ⟨⟨_, rfl, Or.inl rfl, trivial⟩, Or.inr (Or.inr (Or.inr (Or.inr (Or.inr (Or.inl
          ⟨Or.inl rfl, rfl, 2, [3, 3], [1, 1], rfl, cx_pool, by decide, rfl, by decide⟩)))))⟩
      · exact ⟨⟨_, rfl, Or.inl rfl, trivial⟩, Or.inr (Or.inl ⟨rfl, rfl⟩)⟩)
    (by
      intro k n h hk
      rcases cx_lookup k n h with ⟨rfl, rfl⟩ | ⟨rfl, rfl⟩ | ⟨rfl, rfl⟩ | ⟨rfl, rfl⟩
      · exact hInK
      all_goals cases hk)
    (by decide)
  exact ⟨this.1, this.2.2, (this.2.1 "c" cxConv rfl).imp fun n h => ⟨h.1, (hasTypes_of_K _ _ h.2).2⟩,
    (this.2.1 "p" cxPool rfl).imp fun n h => ⟨h.1, (hasTypes_of_K _ _ h.2).2⟩⟩

end NirVerif.C08
