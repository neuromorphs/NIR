import NirVerif.Model.FS

/-! # C15 — a file path behaves as a last-writer-wins register

About `Model.fsStep` over the *generated* file modes and `with`-usage of `nir/serialization.py`
(T3): a change of the mode literal or dropping the context manager changes the generated
constants and these theorems stop checking.  OS-level handle behaviour is exhibited by the
correspondence run (`/proc/self/fd`, rename, delete); the model proves the bookkeeping. -/
namespace NirVerif.C15
open NirVerif NirVerif.Py NirVerif.Model

/-- the source opens files the way the register semantics needs -/
theorem modes : Generated.writeMode = "w" ∧ Generated.readMode = "r" ∧ Generated.versionMode = "r" ∧
    Generated.writeUsesWith = true ∧ Generated.readUsesWith = true ∧ Generated.versionUsesWith = true := by
  decide

/-- the abstract register: the file content produced by the most recent successful write -/
def specStep (version : String) (reg : Option H5) : FsOp → Option H5
  | .write g => match write version g with
    | .ok f => some f
    | .error _ => some (H5.group [])      -- a rejected write is outside the claim: it leaves a truncated file
  | .read => reg
  | .readVersion => reg

def specRun (version : String) : Option H5 → List FsOp → Option H5
  | reg, [] => reg
  | reg, op :: rest => specRun version (specStep version reg op) rest

/-- `fsStep` with the generated modes and `with` flags evaluated -/
theorem fsStep_eq (version : String) (fs : FS) (op : FsOp) :
    fsStep version fs op = ({ content := specStep version fs.content op, openHandles := fs.openHandles },
      match op, fs.content with
      | .write g, _ => (match write version g with | .ok _ => .done | .error e => .failed e)
      | _, none => .failed .other
      | .read, some f => (match read f with | .ok g => .graph g | .error e => .failed e)
      | .readVersion, some f => (match readVersion f with | .ok s => .version s | .error e => .failed e)) := by
  obtain ⟨hw, hr, hv, hww, hrw, hvw⟩ := modes
  cases op with
  | write g =>
    simp only [fsStep, specStep, hw, hww, openForWrite, closeIf, beq_self_eq_true, if_true]
    cases write version g <;> rfl
  | read =>
    simp only [fsStep, specStep, hr, hrw, closeIf, if_true]
    cases fs.content with
    | none => rfl
    | some f => cases h : read f <;> simp only [h] <;> rfl
  | readVersion =>
    simp only [fsStep, specStep, hv, hvw, closeIf, if_true]
    cases fs.content with
    | none => rfl
    | some f => cases h : readVersion f <;> simp only [h] <;> rfl

theorem fsStep_state (version : String) (fs : FS) (op : FsOp) :
    (fsStep version fs op).1 = { content := specStep version fs.content op, openHandles := fs.openHandles } := by
  rw [fsStep_eq]

/-- One step: the path's content afterwards is exactly what the *last* write produced — no
residue of the previous content —, reads leave it untouched, and no handle stays open. -/
theorem step_refines (version : String) (fs : FS) (op : FsOp) (h0 : fs.openHandles = 0) :
    let r := fsStep version fs op
    r.1.openHandles = 0 ∧
    (∀ g f, op = .write g → write version g = .ok f → r.1.content = some f ∧ (match r.2 with | .done => True | _ => False)) ∧
    (op = .read → r.1.content = fs.content ∧
      ∀ f, fs.content = some f → (match r.2, read f with
        | .graph g, .ok g' => g = g'
        | .failed e, .error e' => e = e'
        | _, _ => False)) ∧
    (op = .readVersion → r.1.content = fs.content) := by
  intro r
  have hr : r = _ := fsStep_eq version fs op
  rw [hr]
  refine ⟨h0, ?_, ?_, ?_⟩
  · rintro g f rfl hw
    simp only [specStep, hw, and_self]
  · rintro rfl
    refine ⟨rfl, fun f hf => ?_⟩
    simp only [hf]
    cases read f <;> simp
  · rintro rfl; rfl

/-- **Register refinement** over any operation history: the path always holds exactly the
content of the most recent write (the abstract register), and every call leaves the file closed. -/
theorem refines (version : String) (ops : List FsOp) (fs : FS) (h0 : fs.openHandles = 0) :
    (fsRun version fs ops).1.openHandles = 0 ∧
    (fsRun version fs ops).1.content = specRun version fs.content ops := by
  induction ops generalizing fs with
  | nil => exact ⟨h0, rfl⟩
  | cons op rest ih =>
    simp only [fsRun, specRun]
    rw [fsStep_state]
    exact ih _ h0

theorem specRun_last (version : String) (ops : List FsOp) (g : Node) (f : H5) (hw : write version g = .ok f)
    (reg : Option H5) : specRun version reg (ops ++ [.write g]) = some f := by
  induction ops generalizing reg with
  | nil => simp [specRun, specStep, hw]
  | cons op rest ih => simp only [List.cons_append, specRun]; exact ih _

/-- Corollary in the property's words: after any history ending in a successful write of `g`,
the path holds exactly the file of `g` (nothing of earlier, larger or differently shaped
graphs), and it is closed. -/
theorem read_after_history (version : String) (ops : List FsOp) (g : Node) (f : H5)
    (hw : write version g = .ok f) :
    let fs := (fsRun version { content := none, openHandles := 0 } (ops ++ [.write g])).1
    fs.content = some f ∧ fs.openHandles = 0 := by
  intro fs
  have h := refines version (ops ++ [.write g]) { content := none, openHandles := 0 } rfl
  exact ⟨by rw [h.2]; exact specRun_last version ops g f hw _, h.1⟩

end NirVerif.C15
