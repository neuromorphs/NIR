import NirVerif.Lemmas.ChildBack
import NirVerif.Lemmas.FromList
import NirVerif.Lemmas.DictExact
import NirVerif.Properties.C03

/-! # C01 — the HDF5 round trip returns an equivalent graph

About `Model.write` / `Model.read` (model of `nir.write` / `nir.read` and of the h5py contract; tied to the code by the
`files` correspondence suite).  Proved is the *transport*: nothing a dictionary holds is lost, renamed or joined by
anything else on the way through the file, at any nesting depth, the edge list comes back in order, and `nir.read` is
`from_dict` / the class constructors on the transported values.  Not proved: that the constructors re-run on transported
values (`int → np.int64`, `tuple → ndarray` …) yield an *equivalent* node — C05/C19 per primitive, the oracle's two-sided
comparator for whole graphs.  Where the file returns the values unchanged the round trip is exact: `leaf_exact`,
`graph_file_exact`. -/
namespace NirVerif.C01
open NirVerif NirVerif.Py NirVerif.Model NirVerif.Lemmas

theorem ensureStr_bytes (s : String) : ensureStr (.bytes s.toUTF8.data.toList) = .ok s := by
  have h : ByteArray.mk s.toUTF8.data.toList.toArray = s.toByteArray := by
    simp
  simp only [ensureStr, h]
  have hv : s.toByteArray.IsValidUTF8 := s.isValidUTF8
  simp [String.fromUTF8?, hv]
  rfl

theorem pairs_flatMap (edges : List Edge) :
    h5Load.pairs (edges.flatMap fun e => [e.1, e.2])
      = edges.map fun e => Val.list [.bytes e.1.toUTF8.data.toList, .bytes e.2.toUTF8.data.toList] := by
  induction edges with
  | nil => rfl
  | cons e rest ih => simp [List.flatMap_cons, h5Load.pairs, ih]

/-- **Edges survive in order**: decoding what the reader returns for the stored `edges`
dataset gives back exactly the edge list — any length, duplicates, self-loops, dotted and
non-ASCII endpoints included. -/
theorem edges_roundtrip (edges : List Edge) :
    (h5Create (edgesVal edges)).map (fun ds => decodeEdges (h5Load ds)) = some (.ok edges) := by
  rw [C03.edges_layout]
  cases edges with
  | nil => rfl
  | cons e rest =>
    rw [List.isEmpty_cons, if_neg Bool.false_ne_true, Option.map_some]
    refine congrArg some ?_
    -- an n-by-2 array of strings is loaded as its rows
    show decodeEdges (.list (h5Load.pairs _)) = _
    rw [pairs_flatMap]
    exact mapM_map_ok (fun x => by simp only [ensureStr_bytes, bind, Except.bind, pure, Except.pure]) _

theorem edges_back (edges : List Edge) : ∃ ev, backVal (edgesVal edges) = some ev ∧ decodeEdges ev = .ok edges := by
  have := edges_roundtrip edges
  cases hc : h5Create (edgesVal edges) with
  | none => rw [hc] at this; cases this
  | some ds => rw [hc] at this; exact ⟨h5Load ds, by simp [backVal, hc], by simpa using this⟩

/-- **Nothing lost, nothing renamed, at any depth**: every leaf value of the dictionary form
(any path through `nodes/<name>/…`, `metadata/…`) is found at the same path in the dictionary
the reader hands to the constructors. -/
theorem transport (path : List String) (fuel : Nat) (kvs : List (String × Val)) (items : List (String × H5))
    (h : writeRecursiveFuel fuel kvs [] = .ok items) (hne : path ≠ []) (hlast : path.getLast? ≠ some "metadata")
    (v : Val) (hp : getPath (.dict kvs) path = some v) (hleaf : ∀ d, v ≠ .dict d) :
    ∃ ds, h5Create v = some ds ∧ getPath (hdf2dict (.group items)) path = some (h5Load ds) :=
  path_roundtrip path fuel kvs items h hne hlast v hp hleaf

/-- **Nothing added**: a key the dictionary does not have is not in the group either. -/
theorem nothing_added (fuel : Nat) (kvs : List (String × Val)) (items : List (String × H5))
    (h : writeRecursiveFuel fuel kvs [] = .ok items) (k : String) (hk : lookup k kvs = none) :
    lookup k (hdf2dict.hdf2dictItems items) = none :=
  (back_of_write h).absent hk

/-- the type tag comes back as the same string (so the same class is rebuilt) -/
theorem type_tag (fuel : Nat) (kvs : List (String × Val)) (items : List (String × H5)) (kind : String)
    (h : writeRecursiveFuel fuel kvs [] = .ok items) (hk : lookup "type" kvs = some (.str kind)) :
    lookup "type" (hdf2dict.hdf2dictItems items) = some (.str kind) :=
  (back_of_write h).type hk

/-- **The file round trip factors through the dictionary form — for every node or graph, any nesting depth, any
metadata.**  Whenever `nir.write` succeeds, `nir.read` of the file is `from_dict` applied to a dictionary `D` that is
`Back`-related to `to_dict()` of what was written.  What `from_dict` builds from such a dictionary is the subject of the
per-class theorems (`leaf_end_to_end`, `leaf_end_to_end_meta`, `graph_end_to_end`, C13). -/
theorem read_factors (version : String) (g : Node) (f : H5) (h : write version g = .ok f) :
    ∃ kvs D n, toDict g = .ok (.dict kvs) ∧ Back n kvs D ∧ read f = fromDict (.dict D) := by
  obtain ⟨kvs, node, hd, hnode, rfl⟩ := write_ok h
  exact ⟨kvs, _, _, hd, back_of_write hnode, read_written version node⟩

/-- **End to end, for every leaf primitive with the generic dictionary form** (all but Input,
Output, Flatten; metadata empty): whenever `nir.write` succeeds, `nir.read` of the file is the
class constructor applied to the *transported* field values — each field's value as
`create_dataset` stores it and `item[()]` returns it (`backVal`), under the same name, nothing
added, nothing dropped, whatever order the file lists them in; the empty metadata is
re-defaulted.  `kw'` is any keyword dictionary with those entries. -/
theorem leaf_end_to_end (version kind : String) (fields : List (String × Val)) (it ot : Val)
    (hw : kind ∈ Generated.whitelist)
    (hk : kind ≠ "NIRGraph" ∧ kind ≠ "Input" ∧ kind ≠ "Output" ∧ kind ≠ "Flatten")
    (hnt : lookup "type" fields = none) (hnm : lookup "metadata" fields = none)
    (hnd : ∀ k v, lookup k fields = some v → ∀ d, v ≠ .dict d)
    (kw' : List (String × Val)) (hkw : ∀ k, lookup k kw' = (lookup k fields).bind backVal)
    (f : H5) (hwr : write version (Node.mk kind fields it ot (.dict []) [] []) = .ok f) :
    read f = construct kind kw' := by
  obtain ⟨kvs, D, n, hd, hB, hr⟩ := read_factors version _ f hwr
  rw [toDict_generic kind fields it ot _ hk] at hd
  cases hd
  exact hr.trans (generic_back hw hk hnt hnm hnd hB hkw)

theorem backVal_array (dt : DType) (n : Nat) (sh : List Nat) (d : Bytes)
    (hdt : dt.kind ≠ .object ∧ dt.kind ≠ .unicodeU) : backVal (.arr dt (n :: sh) d) = some (.arr dt (n :: sh) d) := by
  rw [backVal, h5Create_arr dt _ d hdt]; rfl

theorem backVal_npscalar (dt : DType) (d : Bytes) (hle : dt.big = false) :
    backVal (.npscalar dt d) = some (.npscalar dt d) := by
  rw [backVal, h5Create_npscalar, Option.map_some, h5Load_scalar dt d hle]

theorem backVal_int (i : Int) (hfit : fitsInt DType.int64 i = true) :
    backVal (.int i) = some (.npscalar DType.int64 (encodeInt DType.int64 i)) := by
  rw [backVal, h5Create_int i hfit]; rfl

theorem not_dict_of_native {v : Val} (h : backVal v = some v) : ∀ d, v ≠ .dict d := by
  intro d hv; subst hv; simp [backVal, h5Create] at h

theorem native_fields {fields : List (String × Val)} (hnative : ∀ k v, lookup k fields = some v → backVal v = some v) :
    (∀ k v, lookup k fields = some v → ∀ d, v ≠ .dict d) ∧ ∀ k, lookup k fields = (lookup k fields).bind backVal := by
  refine ⟨fun k v hl => not_dict_of_native (hnative k v hl), fun k => ?_⟩
  cases hl : lookup k fields with
  | none => rfl
  | some v => simp [hnative k v hl]

/-- **Corollary (file-native nodes)**: when every field value is one the file returns unchanged
(ndarrays of rank ≥ 1, little-endian numpy scalars, strings — i.e. every node that itself came
out of `nir.read`), the file round trip re-runs the constructor on exactly the node's own
field values: `read ∘ write` agrees with the dictionary round trip of C13. -/
theorem leaf_native_roundtrip (version kind : String) (fields : List (String × Val)) (it ot : Val)
    (hw : kind ∈ Generated.whitelist)
    (hk : kind ≠ "NIRGraph" ∧ kind ≠ "Input" ∧ kind ≠ "Output" ∧ kind ≠ "Flatten")
    (hnt : lookup "type" fields = none) (hnm : lookup "metadata" fields = none)
    (hnative : ∀ k v, lookup k fields = some v → backVal v = some v)
    (f : H5) (hwr : write version (Node.mk kind fields it ot (.dict []) [] []) = .ok f) :
    read f = construct kind fields :=
  leaf_end_to_end version kind fields it ot hw hk hnt hnm (native_fields hnative).1 fields (native_fields hnative).2 f hwr

/-- **End to end with metadata**, for every leaf primitive with the generic dictionary form: whenever `nir.write`
succeeds on a node carrying the non-empty metadata `md`, `nir.read` of the file is the class constructor applied to
the transported field values **and** the metadata dictionary `md'` the file returns, which is `Back`-related to `md` —
whatever order the file lists anything in. -/
theorem leaf_end_to_end_meta (version kind : String) (fields : List (String × Val)) (it ot : Val)
    (md : List (String × Val)) (hmd : md ≠ [])
    (hw : kind ∈ Generated.whitelist)
    (hk : kind ≠ "NIRGraph" ∧ kind ≠ "Input" ∧ kind ≠ "Output" ∧ kind ≠ "Flatten")
    (hnt : lookup "type" fields = none) (hnm : lookup "metadata" fields = none)
    (hnd : ∀ k v, lookup k fields = some v → ∀ d, v ≠ .dict d)
    (kw' : List (String × Val)) (hkw : ∀ k, lookup k kw' = (lookup k fields).bind backVal)
    (f : H5) (hwr : write version (Node.mk kind fields it ot (.dict md) [] []) = .ok f) :
    ∃ md' n, Back n md md' ∧ read f = construct kind (Py.insert "metadata" (.dict md') kw') := by
  obtain ⟨kvs, D, n, hd, hB, hr⟩ := read_factors version _ f hwr
  rw [toDict_generic kind fields it ot _ hk] at hd
  cases hd
  obtain ⟨md', m, hD, hb'⟩ := hB.sub (k := "metadata") (s := md) (by simp [lookup_append, hnm, lookup_cons])
    (fun h => hmd h.2)
  refine ⟨md', m, hb', hr.trans (generic_back_meta hw hk hnt hnm hnd hB fun k => ?_)⟩
  rw [lookup_insert_eq, hkw, hD]

/-- the file-native corollary, as `leaf_native_roundtrip`: the constructor is re-run on the node's own field values plus
the returned metadata -/
theorem leaf_native_roundtrip_meta (version kind : String) (fields : List (String × Val)) (it ot : Val)
    (md : List (String × Val)) (hmd : md ≠ [])
    (hw : kind ∈ Generated.whitelist)
    (hk : kind ≠ "NIRGraph" ∧ kind ≠ "Input" ∧ kind ≠ "Output" ∧ kind ≠ "Flatten")
    (hnt : lookup "type" fields = none) (hnm : lookup "metadata" fields = none)
    (hnative : ∀ k v, lookup k fields = some v → backVal v = some v)
    (f : H5) (hwr : write version (Node.mk kind fields it ot (.dict md) [] []) = .ok f) :
    ∃ md' n, Back n md md' ∧ read f = construct kind (Py.insert "metadata" (.dict md') fields) :=
  leaf_end_to_end_meta version kind fields it ot md hmd hw hk hnt hnm (native_fields hnative).1 fields
    (native_fields hnative).2 f hwr

theorem selfBuilt_empty_meta {n : Node} (h : SelfBuilt n) (hmeta : n.metadata = .dict []) :
    ∃ kind fields it ot, n = Node.mk kind fields it ot (.dict []) [] [] ∧
      (kind ∈ Generated.whitelist ∧ kind ≠ "NIRGraph" ∧ kind ≠ "Input" ∧ kind ≠ "Output" ∧ kind ≠ "Flatten") ∧
      lookup "type" fields = none ∧ lookup "metadata" fields = none ∧ construct kind fields = .ok n := by
  obtain ⟨hg, ⟨hc, he⟩, ⟨hnt, hnm⟩, hidem⟩ := h
  cases n with
  | mk k f i o m c e =>
    cases hc; cases he; cases hmeta
    exact ⟨k, f, i, o, rfl, hg, hnt, hnm, (construct_meta_default k f hnm).symm.trans hidem⟩

theorem selfBuilt_exact (version : String) {n : Node} (h : SelfBuilt n) (hmeta : n.metadata = .dict [])
    (hnative : ∀ k v, lookup k n.fields = some v → backVal v = some v)
    (f : H5) (hwr : write version n = .ok f) : read f = .ok n := by
  obtain ⟨k, f', i, o, rfl, hg, hnt, hnm, hc⟩ := selfBuilt_empty_meta h hmeta
  rw [leaf_native_roundtrip version k f' i o hg.1 hg.2 hnt hnm hnative f hwr, hc]

/-- **Exact file round trip of a leaf node**: a node built by the constructor of a class that
stores its parameters unchanged (called without explicit `input_type` / `output_type`), holding file-native values and
empty metadata, is read back from its own file as *exactly the same node* — fields, value types, derived types and
metadata. -/
theorem leaf_exact (version kind : String) (kw : List (String × Val)) (n : Node) (hk : kind ∈ simpleKinds)
    (h : construct kind kw = .ok n)
    (hnot : lookup "input_type" kw = none ∧ lookup "output_type" kw = none)
    (hmeta : n.metadata = .dict [])
    (hnative : ∀ k v, lookup k n.fields = some v → backVal v = some v)
    (f : H5) (hwr : write version n = .ok f) : read f = .ok n :=
  selfBuilt_exact version (selfBuilt_simple hk h hnot) hmeta hnative f hwr

/-- … and the same for **Conv2d** (stored stride / padding / dilation are pairs). -/
theorem leaf_exact_conv2d (version : String) (kw : List (String × Val)) (n : Node)
    (h : construct "Conv2d" kw = .ok n) (hmeta : n.metadata = .dict [])
    (hnative : ∀ k v, lookup k n.fields = some v → backVal v = some v)
    (f : H5) (hwr : write version n = .ok f) : read f = .ok n :=
  selfBuilt_exact version (selfBuilt_conv2d h) hmeta hnative f hwr

def GenericKind (kind : String) : Prop :=
  kind ∈ Generated.whitelist ∧ kind ≠ "NIRGraph" ∧ kind ≠ "Input" ∧ kind ≠ "Output" ∧ kind ≠ "Flatten"

/-- the children the graph-level theorem covers: Input, Output, Flatten and every primitive with
the generic dictionary form — i.e. every leaf primitive; empty metadata, no dictionary-valued
fields -/
inductive Supported : Node → Prop
  | generic (kind : String) (fields : List (String × Val)) (it ot : Val) (hg : GenericKind kind)
      (hnt : lookup "type" fields = none) (hnm : lookup "metadata" fields = none)
      (hnd : ∀ k v, lookup k fields = some v → ∀ d, v ≠ .dict d) :
      Supported (Node.mk kind fields it ot (.dict []) [] [])
  | input (it ot s : Val) (hit : getItem it "input" = .ok s) (hs : ∀ d, s ≠ .dict d) :
      Supported (Node.mk "Input" [] it ot (.dict []) [] [])
  | output (it ot s : Val) (hot : getItem ot "output" = .ok s) (hs : ∀ d, s ≠ .dict d) :
      Supported (Node.mk "Output" [] it ot (.dict []) [] [])
  | flatten (fields : List (String × Val)) (it ot s : Val) (hit : getItem it "input" = .ok s) (hs : ∀ d, s ≠ .dict d)
      (hnt : lookup "type" fields = none) (hnm : lookup "metadata" fields = none)
      (hnit : lookup "input_type" fields = none)
      (hnd : ∀ k v, lookup k fields = some v → ∀ d, v ≠ .dict d) :
      Supported (Node.mk "Flatten" fields it ot (.dict []) [] [])

/-- `n'` is what the reader rebuilds for the child `n`: the class constructor on the transported
field values (generic primitives), resp. on the transported shape (Input / Output / Flatten) -/
def ChildBack (n n' : Node) : Prop :=
  match n with
  | Node.mk kind fields it ot _ _ _ =>
    if kind = "Input" then
      ∃ s, getItem it "input" = .ok s ∧
        ∀ s', backVal s = some s' → construct "Input" [("input_type", typeDict "input" s')] = .ok n'
    else if kind = "Output" then
      ∃ s, getItem ot "output" = .ok s ∧
        ∀ s', backVal s = some s' → construct "Output" [("output_type", typeDict "output" s')] = .ok n'
    else if kind = "Flatten" then
      ∃ s, getItem it "input" = .ok s ∧
        ∀ s' kw', backVal s = some s' →
          (∀ k, lookup k kw' = if k = "input_type" then some (typeDict "input" s') else (lookup k fields).bind backVal) →
          construct "Flatten" kw' = .ok n'
    else
      ∀ kw', (∀ k, lookup k kw' = (lookup k fields).bind backVal) → construct kind kw' = .ok n'

/-- `kvs ≠ []` is for a child *named* `metadata`: the writer skips only an empty dictionary under that name. -/
theorem child_back (n : Node) (hsup : Supported n) (d : Val) (hd : toDict n = .ok d) :
    ∃ kvs, d = .dict kvs ∧ kvs ≠ [] ∧
      ∀ fuel m D n', Back m kvs D → fromDictFuel (fuel + 1) (.dict D) = .ok n' → ChildBack n n' := by
  obtain ⟨kvs, rfl, hne⟩ := toDict_isDict hd
  refine ⟨kvs, rfl, hne, fun fuel m D n' hB hrd => ?_⟩
  cases hsup with
  | generic kind fields it ot hg hnt hnm hnd =>
    obtain ⟨hw, hk⟩ := hg
    cases (toDict_generic kind fields it ot (.dict []) hk).symm.trans hd
    simp only [ChildBack, if_neg hk.2.1, if_neg hk.2.2.1, if_neg hk.2.2.2]
    exact fun kw' hkw => (generic_back hw hk hnt hnm hnd hB hkw).symm.trans hrd
  | input it ot s hit hs =>
    rw [toDict_input, hit] at hd
    cases hd
    simp only [ChildBack, if_true]
    exact ⟨s, hit, fun s' hb => (io_back (.inl ⟨rfl, rfl, rfl⟩) hs hb hB).symm.trans hrd⟩
  | output it ot s hot hs =>
    rw [toDict_output, hot] at hd
    cases hd
    simp only [ChildBack, show ¬ "Output" = "Input" by decide, if_false, if_true]
    exact ⟨s, hot, fun s' hb => (io_back (.inr ⟨rfl, rfl, rfl⟩) hs hb hB).symm.trans hrd⟩
  | flatten fields it ot s hit hs hnt hnm hnit hnd =>
    rw [toDict_flatten, hit] at hd
    cases hd
    simp only [ChildBack, show ¬ "Flatten" = "Input" by decide, show ¬ "Flatten" = "Output" by decide, if_false, if_true]
    exact ⟨s, hit, fun s' kw' hb hkw => (flatten_back hnt hnm hnit hnd hs hb hB hkw).symm.trans hrd⟩

theorem child_step (n : Node) (hsup : Supported n) (d : Val) (hd : toDict n = .ok d) :
    ∃ kvs, d = .dict kvs ∧ kvs ≠ [] ∧
      ∀ fuel fuel' items n', writeRecursiveFuel fuel' kvs [] = .ok items →
        fromDictFuel (fuel + 1) (.dict (hdf2dict.hdf2dictItems items)) = .ok n' → ChildBack n n' := by
  obtain ⟨kvs, h1, h2, h3⟩ := child_back n hsup d hd
  exact ⟨kvs, h1, h2, fun fuel fuel' items n' hwr hrd => h3 fuel _ _ n' (back_of_write hwr) hrd⟩

/-- `D` is what a reader returns for the dictionary of a graph: a graph `dict2NIRNode` makes of `D` has the nodes made
of what the reader returns for the children's dictionaries, the original edge list, and the metadata `D` holds
(re-defaulted if it holds none). -/
theorem graph_back {n : Nat} {kids D : List (String × Val)} {edges : List Edge} {md : Val} {g' : Node}
    (hB : Back n [("nodes", .dict kids), ("edges", edgesVal edges), ("metadata", md), ("type", .str "NIRGraph")] D)
    (hrd : fromDict (.dict D) = .ok g') :
    ∃ S m cs, Back m kids S ∧ (S.mapM fun (kv : String × Val) => (fromDict kv.2).map fun n => (kv.1, n)) = .ok cs ∧
      g' = mkGraph cs edges ((lookup "metadata" D).getD (.dict [])) := by
  obtain ⟨S, mS, hDn, hBS⟩ := hB.sub (k := "nodes") (s := kids) rfl (by simp)
  obtain ⟨ev, hev, hdec⟩ := edges_back edges
  have hDe := (hB.leaf (k := "edges") (v := edgesVal edges) rfl (by decide) (fun d hd => by cases hd)).1
  obtain ⟨bound, hb1, hb2⟩ := graph_kwargs_bound D hB.nodup fun k h1 h2 h3 h4 =>
    hB.absent (by simp [lookup_cons, lookup_nil, h1, h2, h3, h4])
  rw [fromDict_graph D S ev (hB.type rfl) hDn (hDe.trans hev)] at hrd
  obtain ⟨cs, hcs, hrd⟩ := bind_ok hrd
  simp only [Except.bind, hdec, hb1, hb2, insertAll_nil cs ((mapVals_spec fromDict S cs hcs).1 ▸ hBS.nodup)] at hrd
  exact ⟨S, mS, cs, hBS, hcs, (Except.ok.inj hrd).symm⟩

/-- The flat-graph theorem below, for any graph-level metadata `md`: the graph read back carries the metadata dictionary
the file returns — re-defaulted for the empty dictionary, which leaves no member; `Back`-related to the original
otherwise. -/
theorem graph_end_to_end_meta (version : String) (children : Nodes) (edges : List Edge) (it ot md : Val)
    (hkeys : (children.map Prod.fst).Nodup)
    (hsup : ∀ k n, lookup k children = some n → Supported n)
    (f : H5) (hwr : write version (Node.mk "NIRGraph" [] it ot md children edges) = .ok f)
    (g' : Node) (hrd : read f = .ok g') :
    ∃ cs md', g' = mkGraph cs edges md' ∧ (md = .dict [] → md' = .dict []) ∧
      (∀ m, md = .dict m → m ≠ [] → ∃ m' n, Back n m m' ∧ md' = .dict m') ∧
      (cs.map Prod.fst).Perm (children.map Prod.fst) ∧
      ∀ k n, lookup k children = some n → ∃ n', lookup k cs = some n' ∧ ChildBack n n' := by
  obtain ⟨kvsG, D, m, hd, hB, hr⟩ := read_factors version _ f hwr
  obtain ⟨kids, hkvs, hk1, hk2⟩ := toDict_graph_ok hd
  cases hkvs
  obtain ⟨S, mS, cs, hBS, hcs, rfl⟩ := graph_back hB (hr ▸ hrd)
  obtain ⟨hcs1, hcs2, -⟩ := mapVals_spec fromDict S cs hcs
  -- every original child comes back
  have hchild : ∀ k n, lookup k children = some n → ∃ s', lookup k S = some (.dict s') ∧
      ∀ n', fromDict (.dict s') = .ok n' → ChildBack n n' := by
    intro k n hl
    obtain ⟨d, hkd, hd⟩ := hk2 k n hl
    obtain ⟨kvs, rfl, hne, hstep⟩ := child_back n (hsup k n hl) d hd
    obtain ⟨s', ms, hs', hBs⟩ := hBS.sub hkd (fun h => hne h.2)
    exact ⟨s', hs', fun n' h => hstep _ ms s' n' hBs h⟩
  refine ⟨cs, _, rfl, ?_, ?_, ?_, fun k n hl => ?_⟩
  · rintro rfl
    rw [hB.no_meta (by simp)]; rfl
  · rintro md rfl hmd
    obtain ⟨md', n, hl, hb⟩ := hB.sub (k := "metadata") rfl (fun h => hmd h.2)
    exact ⟨md', n, hb, by rw [hl]; rfl⟩
  · -- same set of names
    rw [hcs1]
    refine (List.perm_ext_iff_of_nodup hBS.nodup hkeys).mpr fun k => ?_
    rw [← lookup_isSome_iff_mem, ← lookup_isSome_iff_mem]
    cases hl : lookup k children with
    | none => rw [hBS.absent (by rwa [lookup_eq_none_iff, hk1, ← lookup_eq_none_iff])]; exact Iff.rfl
    | some n => obtain ⟨s', hs', _⟩ := hchild k n hl; rw [hs']; exact Iff.rfl
  · obtain ⟨s', hs', hback⟩ := hchild k n hl
    obtain ⟨n', hn', hfd⟩ := hcs2 k _ hs'
    exact ⟨n', hn', hback n' hfd⟩

/-- **End to end for flat graphs**: for a graph whose children are leaf primitives of any of the
17 classes (any number, any names the file accepts, any edge list — cycles,
duplicates, self-loops; empty metadata), whenever `nir.write` succeeds and `nir.read` returns a
graph, that graph has exactly the same edge list in the same order, empty metadata, the same set
of node names (re-ordered: the file lists links by name), and under every name the node the class
constructor builds from the transported field values of the original node (`ChildBack`). -/
theorem graph_end_to_end (version : String) (children : Nodes) (edges : List Edge) (it ot : Val)
    (hkeys : (children.map Prod.fst).Nodup)
    (hsup : ∀ k n, lookup k children = some n → Supported n)
    (f : H5) (hwr : write version (Node.mk "NIRGraph" [] it ot (.dict []) children edges) = .ok f)
    (g' : Node) (hrd : read f = .ok g') :
    ∃ cs, g' = mkGraph cs edges (.dict []) ∧ (cs.map Prod.fst).Perm (children.map Prod.fst) ∧
      ∀ k n, lookup k children = some n → ∃ n', lookup k cs = some n' ∧ ChildBack n n' := by
  obtain ⟨cs, md', rfl, hmd, -, hperm, hch⟩ :=
    graph_end_to_end_meta version children edges it ot _ hkeys hsup f hwr g' hrd
  exact ⟨cs, by rw [hmd rfl], hperm, hch⟩

/-- nodes that are read back from their own group as exactly themselves -/
inductive FileExact : Node → Prop
  | simple (kind : String) (kw : List (String × Val)) (n : Node) (hk : kind ∈ simpleKinds)
      (h : construct kind kw = .ok n) (hnot : lookup "input_type" kw = none ∧ lookup "output_type" kw = none)
      (hmeta : n.metadata = .dict []) (hnative : ∀ k v, lookup k n.fields = some v → backVal v = some v) : FileExact n
  | conv2d (kw : List (String × Val)) (n : Node) (h : construct "Conv2d" kw = .ok n)
      (hmeta : n.metadata = .dict []) (hnative : ∀ k v, lookup k n.fields = some v → backVal v = some v) : FileExact n
  | input (s : Val) (hn : backVal s = some s) :
      FileExact (Node.mk "Input" [] (typeDict "input" s) (typeDict "output" s) (.dict []) [] [])
  | output (s : Val) (hn : backVal s = some s) :
      FileExact (Node.mk "Output" [] (typeDict "input" s) (typeDict "output" s) (.dict []) [] [])

theorem generic_exact {n : Node} (h : SelfBuilt n)
    (hmeta : n.metadata = .dict []) (hnative : ∀ k v, lookup k n.fields = some v → backVal v = some v) :
    Supported n ∧ ∀ n', ChildBack n n' → n' = n := by
  obtain ⟨k, f, i, o, rfl, hg, hnt, hnm, hc⟩ := selfBuilt_empty_meta h hmeta
  refine ⟨.generic k f i o hg hnt hnm (native_fields hnative).1, fun n' hcb => ?_⟩
  simp only [ChildBack, if_neg hg.2.2.1, if_neg hg.2.2.2.1, if_neg hg.2.2.2.2] at hcb
  exact Except.ok.inj ((hcb f (native_fields hnative).2).symm.trans hc)

theorem fileExact_spec (n : Node) (h : FileExact n) : Supported n ∧ ∀ n', ChildBack n n' → n' = n := by
  cases h with
  | simple kind kw n hk hc hnot hmeta hnative => exact generic_exact (selfBuilt_simple hk hc hnot) hmeta hnative
  | conv2d kw n hc hmeta hnative => exact generic_exact (selfBuilt_conv2d hc) hmeta hnative
  | input s hn =>
    refine ⟨.input _ _ s rfl (not_dict_of_native hn), fun n' hcb => ?_⟩
    simp only [ChildBack, if_true] at hcb
    obtain ⟨s0, hit, hcons⟩ := hcb
    cases (Except.ok.inj hit : s = s0)
    have h := hcons s hn
    rw [construct_input] at h
    exact (Except.ok.inj h).symm
  | output s hn =>
    refine ⟨.output _ _ s rfl (not_dict_of_native hn), fun n' hcb => ?_⟩
    simp only [ChildBack, show ¬ "Output" = "Input" by decide, if_false, if_true] at hcb
    obtain ⟨s0, hot, hcons⟩ := hcb
    cases (Except.ok.inj hot : s = s0)
    have h := hcons s hn
    rw [construct_output] at h
    exact (Except.ok.inj h).symm

/-- **Exact file round trip of flat graphs, up to the order of the node dictionary**: a graph whose
children are constructor-built nodes of the parameter-storing classes or Conv2d with file-native
values, Inputs and Outputs (empty metadata), any edge list: whenever `nir.write` succeeds and
`nir.read` returns a graph, it is the original graph with its node dictionary re-ordered (the
file lists links by name) — every node exactly itself, the edge list exactly itself. -/
theorem graph_file_exact (version : String) (children : Nodes) (edges : List Edge) (it ot : Val)
    (hkeys : (children.map Prod.fst).Nodup)
    (hex : ∀ k n, lookup k children = some n → FileExact n)
    (f : H5) (hwr : write version (Node.mk "NIRGraph" [] it ot (.dict []) children edges) = .ok f)
    (g' : Node) (hrd : read f = .ok g') :
    ∃ cs, g' = mkGraph cs edges (.dict []) ∧ cs.Perm children := by
  obtain ⟨cs, hg, hperm, hch⟩ := graph_end_to_end version children edges it ot hkeys
    (fun k n hl => (fileExact_spec n (hex k n hl)).1) f hwr g' hrd
  refine ⟨cs, hg, perm_of_lookup cs children (hperm.nodup_iff.mpr hkeys) hkeys fun k => ?_⟩
  cases hl : lookup k children with
  | some n =>
    obtain ⟨n', hn', hcb⟩ := hch k n hl
    rw [hn', (fileExact_spec n (hex k n hl)).2 n' hcb]
  | none =>
    rw [lookup_eq_none_iff] at hl ⊢
    exact fun hm => hl (hperm.mem_iff.mp hm)

/-! Non-vacuity: an LIF node, and the graph Input → LIF (with a self-loop) → Output, are written and read back.  That the
writes and the read succeed is evaluated by the kernel, once (`exLif_written`, `ex_roundtrip`); that the nodes meet the
hypotheses of the theorems is proved once (`exLif_native`, `ex_fileExact`); the examples combine them. -/

def exLifFields : List (String × Val) :=
  [("tau", .arr DType.float64 [2] []), ("r", .arr DType.float64 [2] []), ("v_leak", .arr DType.float64 [2] []),
   ("v_threshold", .arr DType.float64 [2] [])]
def exLif : Node := Node.mk "LIF" exLifFields (typeDict "input" (Val.ofInts [2])) (typeDict "output" (Val.ofInts [2])) (.dict []) [] []

theorem exLif_native (k : String) (v : Val) (hl : lookup k exLifFields = some v) : backVal v = some v := by
  have := mem_of_lookup _ _ _ hl
  simp only [exLifFields, List.mem_cons, List.mem_nil_iff, or_false, Prod.mk.injEq] at this
  rcases this with ⟨_, rfl⟩ | ⟨_, rfl⟩ | ⟨_, rfl⟩ | ⟨_, rfl⟩ <;> exact backVal_array _ _ _ _ (by decide)

theorem exLif_written : ∃ f, write "0.2.0" exLif = .ok f := ok_of_toBool (by decide +kernel)

theorem exLif_built : construct "LIF" exLifFields = .ok exLif := by rfl

/-- Non-vacuity of the end-to-end theorems: an LIF node is written, and reading the file is
the LIF constructor on its four parameter arrays (which accepts them). -/
example : ∃ f, write "0.2.0" exLif = .ok f ∧ read f = construct "LIF" exLifFields ∧
    (construct "LIF" exLifFields).toBool = true := by
  obtain ⟨f, hf⟩ := exLif_written
  exact ⟨f, hf, leaf_native_roundtrip "0.2.0" "LIF" exLifFields _ _ (by decide) (by decide) rfl rfl exLif_native f hf,
    by rw [exLif_built]; rfl⟩

/-- Non-vacuity of `leaf_exact`: the LIF node built by the constructor from four arrays is
written and read back as itself. -/
example : ∃ f, write "0.2.0" exLif = .ok f ∧ read f = .ok exLif := by
  obtain ⟨f, hf⟩ := exLif_written
  exact ⟨f, hf, leaf_exact "0.2.0" "LIF" exLifFields exLif (by decide) exLif_built ⟨rfl, rfl⟩ rfl exLif_native f hf⟩

def exIn : Node := Node.mk "Input" [] (typeDict "input" (Val.ofInts [2])) (typeDict "output" (Val.ofInts [2])) (.dict []) [] []
def exOut : Node := Node.mk "Output" [] (typeDict "input" (Val.ofInts [2])) (typeDict "output" (Val.ofInts [2])) (.dict []) [] []
def exChildren : Nodes := [("in", exIn), ("lif", exLif), ("out", exOut)]
def exEdges : List Edge := [("in", "lif"), ("lif", "out"), ("lif", "lif")]

theorem ex_lookup (k : String) (n : Node) (h : lookup k exChildren = some n) :
    (k = "in" ∧ n = exIn) ∨ (k = "lif" ∧ n = exLif) ∨ (k = "out" ∧ n = exOut) := by
  have := mem_of_lookup _ _ _ h
  simpa [exChildren] using this

theorem ex_fileExact (k : String) (n : Node) (hl : lookup k exChildren = some n) : FileExact n := by
  have hnat : backVal (Val.ofInts [2]) = some (Val.ofInts [2]) := backVal_array _ _ _ _ (by decide)
  rcases ex_lookup k n hl with ⟨_, rfl⟩ | ⟨_, rfl⟩ | ⟨_, rfl⟩
  · exact FileExact.input _ hnat
  · exact FileExact.simple "LIF" exLifFields exLif (by decide) exLif_built ⟨rfl, rfl⟩ rfl exLif_native
  · exact FileExact.output _ hnat

theorem ex_roundtrip : ∃ f g', write "0.2.0" (mkGraph exChildren exEdges) = .ok f ∧ read f = .ok g' := by
  obtain ⟨g', hg⟩ := ok_of_toBool (x := write "0.2.0" (mkGraph exChildren exEdges) >>= read) (by decide +kernel)
  obtain ⟨f, hf, hg⟩ := bind_ok hg
  exact ⟨f, g', hf, hg⟩

/-- Non-vacuity of `graph_end_to_end`: Input → LIF (with a self-loop) → Output is written and
read back (both evaluated by the kernel), its children meet `Supported`, and the theorem yields
the same edges and the three names. -/
example : ∃ f g' cs, write "0.2.0" (mkGraph exChildren exEdges) = .ok f ∧ read f = .ok g' ∧
    g' = mkGraph cs exEdges (.dict []) ∧ (cs.map Prod.fst).Perm ["in", "lif", "out"] ∧
    ∃ n', lookup "lif" cs = some n' ∧ ChildBack exLif n' := by
  obtain ⟨f, g', hf, hg⟩ := ex_roundtrip
  obtain ⟨cs, h1, h2, h3⟩ := graph_end_to_end "0.2.0" exChildren exEdges _ _ (by decide)
    (fun k n hl => (fileExact_spec n (ex_fileExact k n hl)).1) f hf g' hg
  exact ⟨f, g', cs, hf, hg, h1, h2, h3 "lif" exLif rfl⟩

/-- Non-vacuity of `graph_file_exact`: the same Input → LIF → Output graph is read back as itself
(node dictionary re-ordered by name). -/
example : ∃ f g' cs, write "0.2.0" (mkGraph exChildren exEdges) = .ok f ∧ read f = .ok g' ∧
    g' = mkGraph cs exEdges (.dict []) ∧ cs.Perm exChildren := by
  obtain ⟨f, g', hf, hg⟩ := ex_roundtrip
  obtain ⟨cs, h1, h2⟩ := graph_file_exact "0.2.0" exChildren exEdges _ _ (by decide) ex_fileExact f hf g' hg
  exact ⟨f, g', cs, hf, hg, h1, h2⟩

/-- Non-vacuity: edges with a duplicate, a self-loop, a dotted and a non-ASCII endpoint. -/
example : (h5Create (edgesVal [("a", "b"), ("a", "b"), ("b", "b"), ("sub.x", "é")])).map
    (fun ds => decodeEdges (h5Load ds)) = some (.ok [("a", "b"), ("a", "b"), ("b", "b"), ("sub.x", "é")]) :=
  edges_roundtrip _

/-- Non-vacuity of `leaf_native_roundtrip_meta`: the LIF node above carrying `{"k": 1, "deep": {"a": <array>}}` is written
(kernel-evaluated); the theorem yields the metadata dictionary the reader returns and the constructor call. -/
def exMeta : List (String × Val) := [("k", .int 1), ("deep", .dict [("a", .arr DType.float64 [2] [])])]

example : ∃ f md' n, write "0.2.0" (Node.mk "LIF" exLifFields (typeDict "input" (Val.ofInts [2]))
      (typeDict "output" (Val.ofInts [2])) (.dict exMeta) [] []) = .ok f ∧
    Back n exMeta md' ∧ read f = construct "LIF" (Py.insert "metadata" (.dict md') exLifFields) := by
  obtain ⟨f, hf⟩ := ok_of_toBool (x := write "0.2.0" (Node.mk "LIF" exLifFields (typeDict "input" (Val.ofInts [2]))
      (typeDict "output" (Val.ofInts [2])) (.dict exMeta) [] [])) (by decide +kernel)
  obtain ⟨md', n, hb, hr⟩ := leaf_native_roundtrip_meta "0.2.0" "LIF" exLifFields _ _ exMeta (by decide) (by decide)
    (by decide) rfl rfl exLif_native f hf
  exact ⟨f, md', n, hf, hb, hr⟩

end NirVerif.C01
