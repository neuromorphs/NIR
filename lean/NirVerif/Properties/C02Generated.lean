import NirVerif.Properties.C02
import NirVerif.Generated.WriteDispatch

/-! # C02 — the writer's dispatch on the value, as the source states it (translator item T18)

`array_bits` is about the model's `h5Create`, whose array case stores dtype, shape and bytes as given.  That the *source*
sends an ndarray to the branch that passes the array's own dtype (`create_dataset(k, data=v, dtype=v.dtype)`), and not to
the string branch, the group branch or the default conversion, is read off `write_recursive` on every run (T18): the
`isinstance` tests in order and what each branch creates. -/
namespace NirVerif.C02
open NirVerif NirVerif.Py NirVerif.Model

/-- the class the source's tests sort a value into (the first `isinstance` test it satisfies) -/
def branchOf : Val → String
  | .str _ => "str"
  | .arr _ _ _ => "np.ndarray"
  | .dict _ => "dict"
  | _ => "else"

theorem dispatch_generated :
    Generated.writeDispatch = [("str", "string"), ("np.ndarray", "own_dtype"), ("dict", "group"), ("else", "default")] := by
  decide +kernel

/-- an ndarray goes to the branch that keeps its own dtype — and there the model stores exactly dtype, shape, bytes -/
theorem array_branch_generated (dt : DType) (sh : List Nat) (d : Bytes) :
    lookup (branchOf (.arr dt sh d)) Generated.writeDispatch = some "own_dtype" ∧
    ∀ ds, h5Create (.arr dt sh d) = some ds → ds = .num dt sh d := by
  refine ⟨by rw [dispatch_generated]; simp only [branchOf]; decide +kernel, ?_⟩
  intro ds h
  simp only [h5Create] at h
  split at h
  · cases h
  · cases h
  · exact (Option.some.inj h).symm

/-- strings and dictionaries never reach a numeric conversion; a numpy scalar takes the default one (`h5Create`) -/
theorem other_branches_generated :
    (∀ s, lookup (branchOf (.str s)) Generated.writeDispatch = some "string") ∧
    (∀ kvs, lookup (branchOf (.dict kvs)) Generated.writeDispatch = some "group") ∧
    (∀ dt b, lookup (branchOf (.npscalar dt b)) Generated.writeDispatch = some "default") := by
  rw [dispatch_generated]
  refine ⟨fun _ => by simp only [branchOf]; decide +kernel, fun _ => by simp only [branchOf]; decide +kernel,
    fun _ _ => by simp only [branchOf]; decide +kernel⟩

end NirVerif.C02
