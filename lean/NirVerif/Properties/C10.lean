import NirVerif.Lemmas.Inference

/-! # C10 — inference terminates and is non-destructive on every topology

About `Model.workList` / `Model.processEdge` / `Model.inferTypes` (hand-written model of the
active `_forward_type_inference`, tied to the code by the `graphs` correspondence suite,
which runs every case under a watchdog).

**Termination**: `Model.workList` is defined by well-founded recursion on the measure
(#edge targets not yet seen, #work-list entries whose target is seen); Lean accepts the
definition only together with its `decreasing_by` proof, for every multigraph, so the audit
of `NirVerif.Model.workList` (the check of C10 asks `#print axioms` of it with the theorems below) *is* the termination
obligation. -/
namespace NirVerif.C10
open NirVerif NirVerif.Py NirVerif.Model NirVerif.Lemmas

/-- `infer_types` never changes the edge list, the graph's metadata or kind, the node names or
their order; and every node keeps its kind, metadata, children and every field — the only
field it may set being `input_shape` of a Conv node whose output type was undefined — and a
defined output type of a non-Output node is kept.  Holds whether or not inference raises. -/
theorem frame (g : Node) :
    let g' := (inferTypes g).1
    g'.edges = g.edges ∧ g'.metadata = g.metadata ∧ g'.kind = g.kind ∧ g'.fields = g.fields ∧
    g'.children.map Prod.fst = g.children.map Prod.fst ∧
    ∀ k n0, lookup k g.children = some n0 → ∃ n, lookup k g'.children = some n ∧ Frame n0 n := by
  obtain ⟨hk, hf, hm, he, hc⟩ := inferTypes_graph g
  refine ⟨he, hm, hk, hf, ?_⟩
  rw [hc]
  split
  · exact FrameInv.refl _
  · exact forwardInference_frameInv g

/-- It touches no node that is not reachable from an Input (by a non-empty path of edges):
such nodes are returned exactly as they were — success or exception. -/
theorem untouched (g : Node) (k : String)
    (hk : ¬ Reach g.edges ((graphInputs g).map Prod.fst) k) :
    lookup k (inferTypes g).1.children = lookup k g.children := by
  rw [(inferTypes_graph g).2.2.2.2]
  split
  · rfl
  · exact Classical.not_not.mp (mt (forwardInference_touched g k) hk)

/-- Static well-formedness: Input nodes carry defined types, and a node whose output type
inference cannot compute has a defined output type. -/
structure TypedSources (g : Node) : Prop where
  inputs : ∀ k n, lookup k g.children = some n → n.isKind "Input" = true → DefinedBoth n
  static : ∀ k n, lookup k g.children = some n → inferable n.kind = true ∨ typeUndefined n.outputType = false

/-- If `infer_types` returns normally, every node reachable from an Input has both types
defined — on every topology (cycles, self-loops, parallel edges, fan-in/out) and edge order. -/
theorem reach (g : Node) (hkeys : (g.children.map Prod.fst).Nodup) (hg : TypedSources g) (hok : (inferTypes g).2 = none) (k : String)
    (hk : Reach g.edges ((graphInputs g).map Prod.fst) k) :
    ∃ n, lookup k (inferTypes g).1.children = some n ∧ DefinedBoth n := by
  cases hin : (graphInputs g).isEmpty
  · rw [inferTypes_of_inputs hin] at hok ⊢
    have hfin := (forwardInference_run g (fun _ n => DefinedBoth n)
      (fun k hk n hn => hg.inputs k n hn (graphInputs_lookup hkeys ((mem_initialSeen _ _ _).mp hk).1 hn))
      (fun pre post preN postN _ hpre hpost hnone =>
        stepNode_defined hpre.2 (hpost.elim (hg.static post postN) (fun h => Or.inr h.2)) hnone)).1 hok
    exact hfin.get (hfin.reach_seen hk)
  · rw [inferTypes_of_no_inputs hin] at hok; cases hok

/-- The full statement (every flat graph, consistent or not).  It is *not* proved here: the
correspondence/oracle run checks it on every explored graph (exhaustively on small scopes,
see evidence) and the model satisfies it on all of them; what is kernel-checked is
`idempotent_partial` below. -/
def idempotent_full : Prop :=
  ∀ g : Node, (inferTypes g).2 = none → inferTypes (inferTypes g).1 = ((inferTypes g).1, none)

/-- the edge joins two existing leaf nodes and is a fixed point of the loop body -/
def EdgeStable (nodes : Nodes) (e : Edge) : Prop :=
  ∃ preN postN, lookup e.1 nodes = some preN ∧ lookup e.2 nodes = some postN ∧
    preN.isKind "NIRGraph" = false ∧ postN.isKind "NIRGraph" = false ∧ stepNode preN postN = (postN, none)

/-- **Partial**: on a graph all of whose edges are fixed points of the loop body — which is
what a successful run on a type-consistent graph produces (`idempotent_consistent`) — a further
`infer_types` changes nothing at all and succeeds. -/
theorem idempotent_partial (g : Node) (hin : (graphInputs g).isEmpty = false)
    (hmirror : g.inputType = graphInputType g.children ∧ g.outputType = graphOutputType g.children)
    (hstable : ∀ e ∈ g.edges, EdgeStable g.children e) :
    inferTypes g = (g, none) := by
  have hpe : ∀ pre post, (pre, post) ∈ g.edges → processEdge g.children pre post = (g.children, none) := by
    intro pre post hmem
    obtain ⟨preN, postN, h1, h2, k1, k2, hst⟩ := hstable (pre, post) hmem
    rw [processEdge_eq h1 h2 k1 k2, hst, insert_of_lookup _ _ _ h2]
  have key : (forwardInference g).1 = g.children ∧ (forwardInference g).2.2 = none :=
    workList_inv2 g.edges processEdge (fun nodes _ _ => nodes = g.children)
    (fun nodes _ err => nodes = g.children ∧ err = none) (fun st sn h => ⟨h, rfl⟩)
    (fun st pre post hmem rest sn st' e h hs => by subst h; rw [hpe pre post hmem] at hs; cases hs)
    (fun st pre post hmem rest sn st' h hs => by subst h; rw [hpe pre post hmem] at hs; cases hs; rfl)
    g.children _ _ rfl
  rw [inferTypes_of_inputs hin, key.1, key.2, ← hmirror.1, ← hmirror.2, Node.eta]

/-- A concrete graph with a self-loop and a parallel edge has unique names and typed sources, the two
static hypotheses of `reach`; that `infer_types` succeeds on it is not shown here. -/
example :
    let g := mkGraph
      [("in", Node.mk "Input" [] (typeDict "input" (Val.ofInts [2])) (typeDict "output" (Val.ofInts [2])) (.dict []) [] []),
       ("a", Node.mk "Scale" [] (typeDict "input" (Val.ofInts [2])) (typeDict "output" (Val.ofInts [2])) (.dict []) [] []),
       ("out", Node.mk "Output" [] (typeDict "input" .none) (typeDict "output" .none) (.dict []) [] [])]
      [("in", "a"), ("a", "a"), ("a", "out"), ("a", "out")]
    (g.children.map Prod.fst).Nodup ∧ TypedSources g := by
  refine ⟨by decide, ⟨forall_lookup ?_, forall_lookup ?_⟩⟩ <;>
    simp [mkGraph, DefinedBoth, inferable, typeUndefined, typeDict, Val.ofInts]

end NirVerif.C10
