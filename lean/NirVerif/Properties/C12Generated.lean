import NirVerif.Properties.C12
import NirVerif.Generated.GraphInterface

/-! # C12 (continued) — how the graph-level interface is derived, as the source states it

`Generated.graphPortSpec` is regenerated on every run (translator item T12) from `NIRGraph.__post_init__`: for each of
the two graph-level attributes, the class of the children whose names it maps, the child attribute it maps them to, and
whether an empty collection gives `None` instead of `{}`.  `interface_generated` checks the model's
`graphInputType` / `graphOutputType` — which every `Mirror` theorem of C12 is about — against that table, for every
node table. -/
namespace NirVerif.C12
open NirVerif NirVerif.Py NirVerif.Model

/-- the reading of one row of the generated table on a node table -/
def portDict (cls : String) (sel : Node → Val) (noneWhenEmpty : Bool) (children : Nodes) : Val :=
  let ps := children.filter (fun kv => kv.2.isKind cls)
  if noneWhenEmpty && ps.isEmpty then .none else .dict (ps.map fun kv => (kv.1, sel kv.2))

theorem spec_generated :
    Generated.graphPortSpec = [("input_type", "Input", "input_type", true), ("output_type", "Output", "output_type", false)] := by
  decide +kernel

/-- for every row the source states, the model derives the graph-level attribute exactly so, on every node table -/
theorem interface_generated (gattr cls nattr : String) (nw : Bool)
    (h : (gattr, cls, nattr, nw) ∈ Generated.graphPortSpec) (children : Nodes) :
    (if gattr = "input_type" then graphInputType children else graphOutputType children) =
      portDict cls (if nattr = "input_type" then Node.inputType else Node.outputType) nw children := by
  rw [spec_generated] at h
  simp only [List.mem_cons, Prod.mk.injEq, List.mem_nil_iff, or_false] at h
  rcases h with ⟨rfl, rfl, rfl, rfl⟩ | ⟨rfl, rfl, rfl, rfl⟩
  · simp only [if_true, graphInputType, portDict, Bool.true_and]
  · simp only [String.reduceEq, if_false, graphOutputType, portDict, Bool.false_and, Bool.false_eq_true]

end NirVerif.C12
