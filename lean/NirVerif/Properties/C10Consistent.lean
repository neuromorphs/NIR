import NirVerif.Properties.C08
import NirVerif.Generated.WorkListShape
import NirVerif.Properties.C10

/-! # C10 (continued) — a second inference changes nothing, on every consistent graph

`C10.idempotent_partial` asks that every edge be a fixed point of the loop body.  Here that
hypothesis is *discharged* for the whole C08 domain: on any flat graph that is locally
consistent with a typing `τ` — whatever subset of the erasable annotations (Output shapes,
input sides, Flatten outputs, Conv1d/Conv2d types, pooling types) is erased — the first
`infer_types` succeeds and leaves a graph on which a further `infer_types` is the identity. -/
namespace NirVerif.C10
open NirVerif NirVerif.Py NirVerif.Model NirVerif.Lemmas

theorem idempotent_consistent (g : Node) (τ : String → List Int × List Int)
    (hkeys : (g.children.map Prod.fst).Nodup) (hflat : FlatEdges g)
    (hleaf : ∀ k n, lookup k g.children = some n → n.isKind "NIRGraph" = false)
    (hin : (graphInputs g).isEmpty = false)
    (hall : ∀ k n, lookup k g.children = some n →
      n.isKind "Input" = true ∨ Reach g.edges ((graphInputs g).map Prod.fst) k)
    (hnodes : ∀ k n, lookup k g.children = some n → C08.NodeOKK n (τ k))
    (hsrc : ∀ k n, lookup k g.children = some n → n.isKind "Input" = true → HasTypesK n (τ k))
    (hcons : ∀ e ∈ g.edges, (τ e.1).2 = (τ e.2).1) :
    (inferTypes g).2 = none ∧ inferTypes (inferTypes g).1 = ((inferTypes g).1, none) := by
  obtain ⟨hok, htyped, _⟩ := C08.restore_settled g τ hkeys hflat hleaf hin hall hnodes hsrc hcons
  refine ⟨hok, ?_⟩
  obtain ⟨hed, -, -, -, -, hfr⟩ := frame g
  -- under each name of `g` inference leaves a node that carries `τ` and, by the frame, has the kind it had
  have hnode : ∀ k a, lookup k g.children = some a → ∃ na, lookup k (inferTypes g).1.children = some na ∧
      HasTypesM na (τ k) ∧ ∀ kd, na.isKind kd = a.isKind kd := by
    intro k a ha
    obtain ⟨na, hna, hM⟩ := htyped k a ha
    obtain ⟨n', hn', hF⟩ := hfr k a ha
    cases hna.symm.trans hn'
    exact ⟨na, hna, hM, fun kd => by simp [Node.isKind, hF.1]⟩
  apply idempotent_partial
  · obtain ⟨⟨k, n0⟩, hmem⟩ := List.isEmpty_eq_false_iff_exists_mem.mp hin
    obtain ⟨hm, hk⟩ := List.mem_filter.mp hmem
    obtain ⟨n, hn, -, hkd⟩ := hnode k n0 (lookup_of_mem_nodup _ hkeys _ _ hm)
    exact List.isEmpty_eq_false_iff_exists_mem.mpr
      ⟨(k, n), List.mem_filter.mpr ⟨mem_of_lookup _ _ _ hn, (hkd _).trans hk⟩⟩
  · simp [inferTypes_of_inputs hin]
  · intro e he
    rw [hed] at he
    obtain ⟨a, b, ha, hb, ka, kb⟩ := hflat e he
    obtain ⟨na, hna, hMa, hka⟩ := hnode e.1 a ha
    obtain ⟨nb, hnb, hMb, hkb⟩ := hnode e.2 b hb
    exact ⟨na, nb, hna, hnb, (hka _).trans ka, (hkb _).trans kb,
      stepNode_settled na nb (τ e.1).1 (τ e.1).2 (τ e.2).2 hMa.1 (hcons e he ▸ hMb.1) hMb.2⟩

/-! ## the skeleton of the work-list, as read off the source (translator item T14)

`Model.workList` / `initialStack` / `initialSeen` / `pushed` model this skeleton: the list is seeded with the edges that
leave Input nodes, `seen` starts as their sources, every round pops the **last** entry, adds the processed target to `seen`
and appends the target's outgoing edges to nodes not yet seen.  The translator accepts `_forward_type_inference` only if
its first two statements, the loop head, the first statement of the loop body and its last two statements have exactly
that form and nothing else in the body touches the list or the set; it refuses (and the tie breaks) otherwise.  It
emits three flags: the pop takes the last entry, the seeding and the push have that form. -/
theorem worklist_generated :
    Generated.workListPopsLast = true ∧ Generated.workListSeedsFromInputEdges = true ∧
    Generated.workListPushesUnseenSuccessors = true := by
  decide

/-- the model pops the entry a LIFO `pop()` returns — with the stack kept reversed, the head; stated for a pop whose
step raises (the run then ends with that step's state and error) -/
theorem workList_pops_head {σ ε : Type} (edges : List Edge) (step : σ → String → String → σ × Option ε)
    (st : σ) (pre post : String) (hm : (pre, post) ∈ edges) (rest : List {e : Edge // e ∈ edges}) (seen : List String) (e : ε)
    (st' : σ) (h : step st pre post = (st', some e)) :
    workList edges step st (⟨(pre, post), hm⟩ :: rest) seen = (st', seen, some e) := by
  rw [workList, h]

end NirVerif.C10
