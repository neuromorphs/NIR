import Mathlib.Analysis.SpecialFunctions.ExpDeriv
import NirVerif.Generated.LifExactReal

/-! # C20 — the reference simulators implement the documented neuron dynamics

About `Generated.LifReal.*`, the ℝ back-end of the translation of `paper/01_lif/lif_exact_sim.py` (the
`Float` twins generated from the same syntax tree are executed against the Python originals to validate
the translator).  The theorems are over ℝ; float64 rounding is outside them.  The CubaLIF reference is
in `C20Cuba`. -/
namespace NirVerif.C20
open NirVerif.Generated.LifReal Real Filter Topology

variable (tau r v_leak v_threshold : ℝ)

theorem advance_eq (v I t : ℝ) :
    advance tau r v_leak v_threshold v I t
      = (v_leak + r * I) + (v - (v_leak + r * I)) * Real.exp (-t / tau) := by
  unfold advance; ring

/-- advancing by zero time is the identity -/
theorem zero (v I : ℝ) : advance tau r v_leak v_threshold v I 0 = v := by
  rw [advance_eq]; simp

/-- advancing in two steps equals advancing once by the sum -/
theorem add (v I a b : ℝ) :
    advance tau r v_leak v_threshold v I (a + b)
      = advance tau r v_leak v_threshold (advance tau r v_leak v_threshold v I a) I b := by
  simp only [advance_eq]
  have : Real.exp (-(a + b) / tau) = Real.exp (-a / tau) * Real.exp (-b / tau) := by
    rw [← Real.exp_add]; congr 1; ring
  rw [this]; ring

/-- **Recording is transparent on a spike-free, constant-input stretch**: the event loop handles a
record event by advancing the membrane to the record time; cutting a stretch into any number of such
advances (any recording interval, any phase) ends at the same voltage as one advance over the whole
stretch — so the voltage found at the next input change or spike prediction does not depend on `record_dt`. -/
theorem record_transparent (v I : ℝ) (ds : List ℝ) :
    ds.foldl (fun u d => advance tau r v_leak v_threshold u I d) v
      = advance tau r v_leak v_threshold v I ds.sum := by
  induction ds generalizing v with
  | nil => simp [zero]
  | cons d rest ih =>
    simp only [List.foldl_cons, List.sum_cons]
    rw [ih, ← add]

/-- … and every recorded voltage is the value of the exact solution at its own record time,
whatever was recorded before. -/
theorem recorded_value (v I : ℝ) (ds : List ℝ) (d : ℝ) :
    advance tau r v_leak v_threshold (ds.foldl (fun u x => advance tau r v_leak v_threshold u I x) v) I d
      = advance tau r v_leak v_threshold v I (ds.sum + d) := by
  rw [record_transparent, ← add]

/-- `advance_by_delta_t` solves the documented LIF equation `tau * dv/dt = (v_leak - v) + r*I` -/
theorem ode (htau : tau ≠ 0) (v I t : ℝ) :
    HasDerivAt (fun s => advance tau r v_leak v_threshold v I s)
      (((v_leak - advance tau r v_leak v_threshold v I t) + r * I) / tau) t := by
  simp only [advance_eq]
  refine ((((hasDerivAt_id' t).fun_neg.div_const tau).exp.const_mul (v - (v_leak + r * I))).const_add
    (v_leak + r * I)).congr_deriv ?_
  field_simp
  ring

/-- the membrane relaxes to `v_leak + r*I` -/
theorem relax (htau : 0 < tau) (v I : ℝ) :
    Tendsto (fun t => advance tau r v_leak v_threshold v I t) atTop (𝓝 (v_leak + r * I)) := by
  simp only [advance_eq]
  have h : Tendsto (fun t : ℝ => Real.exp (-t / tau)) atTop (𝓝 0) :=
    Real.tendsto_exp_atBot.comp (tendsto_neg_atTop_atBot.atBot_div_const htau)
  simpa using (h.const_mul (v - (v_leak + r * I))).const_add (v_leak + r * I)

/-- reset by subtraction -/
theorem reset (v : ℝ) : applyReset tau r v_leak v_threshold v = v - v_threshold := rfl

/-- the distance to the threshold along the flow: `D = v - v_leak - r*I` is the initial distance to the asymptote,
`N = v_threshold - v_leak - r*I` that of the threshold -/
theorem advance_sub (v I t : ℝ) :
    advance tau r v_leak v_threshold v I t - v_threshold
      = (v - v_leak - r * I) * Real.exp (-t / tau) - (v_threshold - v_leak - r * I) := by
  unfold advance; ring

/-- `calc_next_spike_time`, evaluated region by region for a membrane below the threshold (`D < N`): nothing is
predicted where the membrane does not rise (`0 ≤ D`) or its asymptote is not above the threshold (`0 ≤ N`); for
`D < N < 0` the time at which `D * exp (-t/tau) = N`. -/
theorem nextSpikeTime_spec (htau : 0 < tau) {v I : ℝ} (hv : v < v_threshold) :
    (nextSpikeTime tau r v_leak v_threshold v I = none ∧
      (0 ≤ v - v_leak - r * I ∨ v - v_leak - r * I < 0 ∧ 0 ≤ v_threshold - v_leak - r * I)) ∨
    ∃ t, nextSpikeTime tau r v_leak v_threshold v I = some t ∧ 0 ≤ t ∧ v - v_leak - r * I < 0 ∧
      (v - v_leak - r * I) * Real.exp (-t / tau) = v_threshold - v_leak - r * I := by
  unfold nextSpikeTime
  set D := v - v_leak - r * I
  set N := v_threshold - v_leak - r * I
  have hDN : D < N := sub_lt_sub_right (sub_lt_sub_right hv _) _
  have hneg : -1 * tau < 0 := by rw [neg_one_mul]; exact neg_neg_of_pos htau
  rcases lt_trichotomy D 0 with hD | hD | hD
  · rcases le_or_gt 0 N with hN | hN
    · exact .inl ⟨by rw [if_neg hD.ne]; exact if_neg (not_lt.mpr (div_nonpos_of_nonneg_of_nonpos hN hD.le)),
        .inr ⟨hD, hN⟩⟩
    · have hq : 0 < N / D := div_pos_of_neg_of_neg hN hD
      have ht : 0 ≤ -1 * tau * Real.log (N / D) :=
        (mul_pos_of_neg_of_neg hneg (Real.log_neg hq ((div_lt_one_of_neg hD).mpr hDN))).le
      refine .inr ⟨_, by rw [if_neg hD.ne]; exact (if_pos hq).trans (if_pos ht), ht, hD, ?_⟩
      rw [neg_one_mul, neg_mul, neg_neg, mul_div_cancel_left₀ _ htau.ne', Real.exp_log hq, mul_div_cancel₀ _ hD.ne]
  · exact .inl ⟨if_pos hD, .inl hD.ge⟩
  · have hq : 1 < N / D := (one_lt_div hD).mpr hDN
    have ht : ¬ 0 ≤ -1 * tau * Real.log (N / D) := not_le.mpr (mul_neg_of_neg_of_pos hneg (Real.log_pos hq))
    exact .inl ⟨by rw [if_neg hD.ne']; exact (if_pos (zero_lt_one.trans hq)).trans (if_neg ht), .inl hD.le⟩

/-- A predicted spike time is a threshold crossing, and the first one. -/
theorem spike_some (htau : 0 < tau) (v I t : ℝ) (hv : v < v_threshold)
    (h : nextSpikeTime tau r v_leak v_threshold v I = some t) :
    0 ≤ t ∧ advance tau r v_leak v_threshold v I t = v_threshold ∧
      ∀ s, 0 ≤ s → s < t → advance tau r v_leak v_threshold v I s < v_threshold := by
  rcases nextSpikeTime_spec tau r v_leak v_threshold htau (I := I) hv with ⟨hn, -⟩ | ⟨t', ht', h0, hD, hat⟩
  · cases hn.symm.trans h
  · cases ht'.symm.trans h
    refine ⟨h0, sub_eq_zero.mp (by rw [advance_sub, hat, sub_self]), fun s _ hst => sub_neg.mp ?_⟩
    -- `D < 0`: the distance to the asymptote shrinks, so the membrane rises, strictly
    rw [advance_sub, ← hat, sub_neg]
    exact mul_lt_mul_of_neg_left (Real.exp_lt_exp.mpr (div_lt_div_of_pos_right (neg_lt_neg hst) htau)) hD

/-- If no spike is predicted, the membrane never reaches the threshold. -/
theorem spike_none (htau : 0 < tau) (v I : ℝ) (hv : v < v_threshold)
    (h : nextSpikeTime tau r v_leak v_threshold v I = none) :
    ∀ s, 0 ≤ s → advance tau r v_leak v_threshold v I s < v_threshold := by
  intro s hs
  rcases nextSpikeTime_spec tau r v_leak v_threshold htau (I := I) hv with ⟨-, hDN⟩ | ⟨t, ht, -⟩
  · rw [← sub_neg, advance_sub, sub_neg]
    rcases hDN with hD | ⟨hD, hN⟩
    · have he : Real.exp (-s / tau) ≤ 1 :=
        Real.exp_le_one_iff.mpr (div_nonpos_of_nonpos_of_nonneg (neg_nonpos.mpr hs) htau.le)
      exact (mul_le_of_le_one_right hD he).trans_lt (sub_lt_sub_right (sub_lt_sub_right hv _) _)
    · exact (mul_neg_of_neg_of_pos hD (Real.exp_pos _)).trans_le hN
  · cases ht.symm.trans h

/-- Non-vacuity, with a non-zero leak (the script's own `test()` has `v_leak = 0`): the hypotheses of
`spike_some` are met and a spike is predicted. -/
example : ∃ t, nextSpikeTime 1 1 (1/4) 1 0 1 = some t := by
  rcases nextSpikeTime_spec 1 1 (1/4) 1 one_pos (v := 0) (I := 1) one_pos with ⟨-, h⟩ | ⟨t, h, -⟩
  · norm_num at h
  · exact ⟨t, h⟩

end NirVerif.C20
