-- the Python value universe
import NirVerif.Py.Basic
import NirVerif.Py.Value
-- the executable model
import NirVerif.Model.CubaRun
import NirVerif.Model.Dict
import NirVerif.Model.EventLoop
import NirVerif.Model.FS
import NirVerif.Model.File
import NirVerif.Model.Graph
import NirVerif.Model.Node
import NirVerif.Model.Shapes
import NirVerif.Model.WorkList
-- independent specifications
import NirVerif.Spec.Conv
import NirVerif.Spec.Flatten
import NirVerif.Spec.Layout
import NirVerif.Spec.ShapeExpr
import NirVerif.Spec.TensorShape
import NirVerif.Spec.Typing
-- regenerated from /repo on every run
import NirVerif.Generated.CheckErrors
import NirVerif.Generated.ConvAxis
import NirVerif.Generated.ConvCallSites
import NirVerif.Generated.CubaRefFloat
import NirVerif.Generated.CubaRefReal
import NirVerif.Generated.DeclaredTypes
import NirVerif.Generated.DictOverrides
import NirVerif.Generated.Fields
import NirVerif.Generated.FileModes
import NirVerif.Generated.Flatten
import NirVerif.Generated.FromDictShape
import NirVerif.Generated.GraphInterface
import NirVerif.Generated.Guards
import NirVerif.Generated.LifExactFloat
import NirVerif.Generated.LifExactReal
import NirVerif.Generated.NeuronShapes
import NirVerif.Generated.ObserverEffects
import NirVerif.Generated.ReadShape
import NirVerif.Generated.UniqueName
import NirVerif.Generated.Whitelist
import NirVerif.Generated.WorkListShape
import NirVerif.Generated.WriteDispatch
import NirVerif.Generated.WriteShape
-- the lemma layer, in the order of DESIGN.md §2.2
import NirVerif.Lemmas.Except
import NirVerif.Lemmas.Node
import NirVerif.Lemmas.Dict
import NirVerif.Lemmas.Construct
import NirVerif.Lemmas.Idempotent
import NirVerif.Lemmas.FromDict
import NirVerif.Lemmas.DictExact
import NirVerif.Lemmas.FromList
import NirVerif.Lemmas.FileForm
import NirVerif.Lemmas.ChildBack
import NirVerif.Lemmas.Step
import NirVerif.Lemmas.Inference
import NirVerif.Lemmas.MetaInert
import NirVerif.Lemmas.Encoding
import NirVerif.Lemmas.Typing
import NirVerif.Lemmas.ConvReading
import NirVerif.Lemmas.Restore
import NirVerif.Lemmas.Conv
import NirVerif.Lemmas.Flatten
import NirVerif.Lemmas.EventLoop
-- the properties
import NirVerif.Properties.C01
import NirVerif.Properties.C02
import NirVerif.Properties.C02Generated
import NirVerif.Properties.C03
import NirVerif.Properties.C03File
import NirVerif.Properties.C03Generated
import NirVerif.Properties.C04
import NirVerif.Properties.C04Generated
import NirVerif.Properties.C05
import NirVerif.Properties.C05Generated
import NirVerif.Properties.C05Stable
import NirVerif.Properties.C06
import NirVerif.Properties.C06Generated
import NirVerif.Properties.C07
import NirVerif.Properties.C08
import NirVerif.Properties.C09
import NirVerif.Properties.C09Generated
import NirVerif.Properties.C10
import NirVerif.Properties.C10Consistent
import NirVerif.Properties.C11
import NirVerif.Properties.C12
import NirVerif.Properties.C12Generated
import NirVerif.Properties.C13
import NirVerif.Properties.C13Generated
import NirVerif.Properties.C14
import NirVerif.Properties.C15
import NirVerif.Properties.C15Generated
import NirVerif.Properties.C16
import NirVerif.Properties.C16Generated
import NirVerif.Properties.C17
import NirVerif.Properties.C17Generated
import NirVerif.Properties.C18
import NirVerif.Properties.C18Generated
import NirVerif.Properties.C19
import NirVerif.Properties.C19Generated
import NirVerif.Properties.C20
import NirVerif.Properties.C20Crossings
import NirVerif.Properties.C20Cuba
import NirVerif.Properties.C20Loop
